import BedVerif.Lemmas.C12Lemmas
/-!
C12: the column-wise expectation is met by `parseList` on any column list whose decoders and errors
are those the expectation speaks of; `colsOf` is such a list.
-/
namespace BV
variable {F : Type}

/-- outcome `o` is what the expectation demands -/
def Expect.MetBy {γ : Type} (e : Expect) (o : Outcome PErr γ) : Prop :=
  match e with
  | .accept => ∃ r, o = .ok r
  | .bedError e => o = .err e
  | .someError => ∃ e, o = .err e

theorem Expect.MetBy.ne_panic {γ : Type} {e : Expect} {o : Outcome PErr γ} (h : e.MetBy o) : o ≠ .panic := by
  intro hp
  subst hp
  cases e with
  | accept => obtain ⟨_, h⟩ := h; cases h
  | bedError _ => cases h
  | someError => obtain ⟨_, h⟩ := h; cases h

theorem range1 : List.range 1 = [0] := by decide
theorem bedColOk0 (f : Bytes) : bedColOk 0 f = true := rfl
theorem bedColOk3 (f : Bytes) : bedColOk 3 f = true := rfl

/-- `bedCol k` decodes what `bedColOk k` admits, and fails with the errors `bedColErr k` -/
theorem bedCol_spec {k : Nat} (h : k < 6) (f : Bytes) :
    ((bedCol (F := F) k).dec f).isSome = bedColOk k f ∧
    (bedCol (F := F) k).miss = bedColErr k true ∧ (bedCol (F := F) k).bad = bedColErr k false := by
  rcases k with _ | _ | _ | _ | _ | _ | k
  · exact ⟨rfl, rfl, rfl⟩
  · exact ⟨rfl, rfl, rfl⟩
  · exact ⟨rfl, rfl, rfl⟩
  · exact ⟨rfl, rfl, rfl⟩
  · exact ⟨decOpt_isSome _ f, rfl, rfl⟩
  · exact ⟨decOpt_isSome _ f, rfl, rfl⟩
  · omega

theorem getElem?_of_drop_nil {α} {l : List α} {m : Nat} (h : l.drop m = []) : l[m]? = none := by
  rw [← List.head?_drop, h]; rfl
theorem getElem?_of_drop_cons {α} {l : List α} {m : Nat} {a : α} {r : List α} (h : l.drop m = a :: r) :
    l[m]? = some a ∧ l.drop (m + 1) = r := by
  rw [← List.head?_drop, List.drop_add_one_eq_tail_drop, h]; exact ⟨rfl, rfl⟩

/-- BED columns `k … k+n-1` of the line `full`, read from its `k`-th field on: the first missing or
malformed one decides the error; if there is none, what follows them (`xs`, expectation `T`) decides -/
theorem met_bed (full : List Bytes) (T : Expect) (xs : List (Col F)) (n k : Nat) (h : k + n ≤ 6)
    (hT : ∀ x, T.MetBy (parseList xs x (full.drop (k + n)))) (x : TRec F) :
    Expect.MetBy
      (match (List.range' k n).find? (fun j => match full[j]? with | none => true | some f => !bedColOk j f) with
       | some j => .bedError (bedColErr j (full[j]?).isNone)
       | none => T)
      (parseList ((List.range' k n).map bedCol ++ xs) x (full.drop k)) := by
  induction n generalizing k x with
  | zero => exact hT x
  | succ n ih =>
    have hk : k < 6 := by omega
    simp only [List.range'_succ, List.find?_cons, List.map_cons, List.cons_append]
    cases hd : full.drop k with
    | nil =>
      simp only [getElem?_of_drop_nil hd]
      exact congrArg Outcome.err (bedCol_spec hk []).2.1
    | cons f r =>
      obtain ⟨h0, h1⟩ := getElem?_of_drop_cons hd
      obtain ⟨hok, -, hbad⟩ := bedCol_spec (F := F) hk f
      simp only [h0, parseList_cons_cons, ← hok, ← h1]
      cases hf : (bedCol (F := F) k).dec f with
      | none =>
        simp only [Option.isSome_none, Bool.not_false, h0]
        exact congrArg Outcome.err hbad
      | some v => exact ih (k + 1) (by omega) (by rw [Nat.add_assoc, Nat.add_comm 1]; exact hT) _

/-- format-specific columns: any missing or malformed one demands some error -/
theorem met_extra (xs : List (Col F)) (rest : List Bytes) (x : TRec F) :
    Expect.MetBy
      (if (List.range xs.length).any (fun i =>
          match rest[i]?, (xs.map fun c f => (c.dec f).isSome)[i]? with
          | some f, some okf => !okf f | _, _ => true) then .someError else .accept)
      (parseList xs x rest) := by
  induction xs generalizing rest x with
  | nil => exact ⟨x, rfl⟩
  | cons c cs ih =>
    cases rest with
    | nil =>
      simp only [List.length_cons, List.range_succ_eq_map, List.any_cons, List.getElem?_nil, Bool.true_or, if_true]
      exact ⟨_, rfl⟩
    | cons f r =>
      rw [parseList_cons_cons]
      cases hf : c.dec f with
      | none =>
        simp only [List.length_cons, List.range_succ_eq_map, List.any_cons, List.map_cons, List.getElem?_cons_zero, hf,
          Option.isSome_none, Bool.not_false, Bool.true_or, if_true]
        exact ⟨_, rfl⟩
      | some v =>
        simp only [List.length_cons, List.range_succ_eq_map, List.any_cons, List.any_map, List.map_cons,
          List.getElem?_cons_zero, hf, Option.isSome_some, Bool.not_true, Bool.false_or, Function.comp_def,
          Nat.succ_eq_add_one, List.getElem?_cons_succ]
        exact ih r _

theorem bedCols_le (ty : Ty) : bedCols ty ≤ 6 := by
  cases ty with
  | bed n => exact Nat.max_le.2 ⟨by decide, Nat.min_le_right n 6⟩
  | _ => decide

theorem extraCols_ok (fc : FloatCodec F) (ty : Ty) :
    (extraCols fc ty).map (fun c f => (c.dec f).isSome) = extraColOk fc ty := by
  cases ty with
  | narrowPeak | broadPeak =>
    simp only [extraCols, extraColOk, pvalCol, List.map_cons, List.map_nil, Option.isSome_map]
    rfl
  | _ => rfl

theorem met_colsOf (fc : FloatCodec F) (ty : Ty) (line : Bytes) (x : TRec F) :
    (c12Expect fc ty line).MetBy (parseList (colsOf fc ty) x (columnsOfLine ty line)) := by
  have h := met_bed (columnsOfLine ty line) _ (extraCols fc ty) (bedCols ty) 0
    (by rw [Nat.zero_add]; exact bedCols_le ty) (met_extra (extraCols fc ty) _) x
  simp only [List.getElem?_drop, ← List.range_eq_range', Nat.zero_add, List.drop_zero] at h
  simp only [c12Expect, colsOf, ← extraCols_ok fc ty, List.length_map]
  exact h

end BV
