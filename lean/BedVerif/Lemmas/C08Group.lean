import BedVerif.Lemmas.MergeBed
/-! C08: what the sweep needs to know of a cluster (`GroupOK`), from the analysis of the grouping loop for C07
(`groups_good`), carried from the viewed records to the records by `groupsOf_map`. -/
namespace BV.C08

variable {β : Type}

/-- a group: non-empty, on one chromosome, covering exactly the stretch `[s, e)` -/
structure GroupOK (view : β → Rec) (g : List β) (c : Bytes) (s e : Nat) : Prop where
  ne : g ≠ []
  chrom : ∀ b ∈ g, (view b).chrom = c
  bounds : ∀ b ∈ g, s ≤ (view b).start ∧ (view b).stop ≤ e
  cover : ∀ p, s ≤ p → p < e → ∃ b ∈ g, (view b).start ≤ p ∧ p < (view b).stop

theorem GroupOK.reverse {view : β → Rec} {g : List β} {c : Bytes} {s e : Nat} (h : GroupOK view g c s e) :
    GroupOK view g.reverse c s e := by
  obtain ⟨h1, h2, h3, h4⟩ := h
  refine ⟨by simpa using h1, fun b hb => h2 b (List.mem_reverse.mp hb), fun b hb => h3 b (List.mem_reverse.mp hb), ?_⟩
  intro p hp1 hp2
  obtain ⟨b, hb, e⟩ := h4 p hp1 hp2
  exact ⟨b, List.mem_reverse.mpr hb, e⟩

/-- a chained one-chromosome group of sorted records covers the stretch from its first start to its largest end -/
theorem GroupOK.of_good {g : List Rec} (hg : GoodGroup g) (hs : SortedRecs g) :
    GroupOK id g (g.headD default).chrom (g.headD default).start (runMaxEnd g) := by
  obtain ⟨hne, hc, hch⟩ := hg
  obtain ⟨h, t, rfl⟩ := List.exists_cons_of_ne_nil hne
  refine ⟨hne, fun b hb => hc b hb h List.mem_cons_self,
    fun b hb => ⟨head_start_le hs hc b hb, stop_le_runMaxEnd hb⟩, fun p hp1 hp2 => ?_⟩
  obtain ⟨r, hr, hm⟩ := cover_of_chained hch (h :: t).length (Nat.le_refl _) p hp1 (by rwa [List.take_length])
  exact ⟨r, List.mem_of_mem_take hr, hm⟩

theorem GroupOK.of_map {view : β → Rec} {g : List β} {c : Bytes} {s e : Nat}
    (h : GroupOK id (g.map view) c s e) : GroupOK view g c s e := by
  refine ⟨fun e => h.ne (by rw [e]; rfl), fun b hb => h.chrom _ (List.mem_map_of_mem hb),
    fun b hb => h.bounds _ (List.mem_map_of_mem hb), fun p h1 h2 => ?_⟩
  obtain ⟨r, hr, hm⟩ := h.cover p h1 h2
  obtain ⟨b, hb, rfl⟩ := List.mem_map.mp hr
  exact ⟨b, hb, hm⟩

theorem groupsOf_ok (view : β → Rec) (xs : List β) (hs : SortedRecs (xs.map view)) :
    ∃ gs, groupsOf view xs = .ok gs ∧ (∀ g ∈ gs, ∃ c s e, GroupOK view g c s e) ∧
      gs.Pairwise (fun g g' => GroupLt (g.map view) (g'.map view)) ∧ gs.flatten = xs := by
  obtain ⟨gs', hg', hG⟩ := groups_good _ hs
  have hm := groupsOf_map view xs
  rw [hg'] at hm
  cases hgs : groupsOf view xs with
  | panic => rw [hgs] at hm; cases hm
  | ok gs =>
    rw [hgs] at hm
    cases hm
    refine ⟨gs, rfl, fun g hg => ?_, List.pairwise_map.mp (groupLt_pairwise hs hG), ?_⟩
    · have hg' : g.map view ∈ gs.map (List.map view) := List.mem_map_of_mem hg
      exact ⟨_, _, _, (GroupOK.of_good (hG.good hg') (hG.sorted hs hg')).of_map⟩
    · simpa [accCur] using groupsAux_flatten view xs none [] gs hgs

end BV.C08
