import BedVerif.Lemmas.C19Count
/-! `runsOf` / `canonicalCover`: scanning the indicator of a canonical list gives back the list, so a canonical
list is the canonical cover of whatever covers the same positions. -/
namespace BV
namespace C18h
variable {α β : Type}

/-- the step function of `runsOf`, named -/
def rstep (f : Nat → Bool) (acc : List (Nat × Nat) × Option Nat) (p : Nat) : List (Nat × Nat) × Option Nat :=
  match acc.2, f p with
  | none, true => (acc.1, some p)
  | none, false => acc
  | some s, true => (acc.1, some s)
  | some s, false => (acc.1 ++ [(s, p)], none)

/-- closing the pending run -/
def rfin (r : List (Nat × Nat) × Option Nat) (n : Nat) : List (Nat × Nat) :=
  match r.2 with
  | none => r.1
  | some s => r.1 ++ [(s, n)]

theorem runsOf_eq (f : Nat → Bool) (n : Nat) :
    runsOf f n = rfin ((List.range n).foldl (rstep f) ([], none)) n := rfl

/-- position `q` lies in one of the pairs of `L` -/
def inL (L : List (Nat × Nat)) (q : Nat) : Prop := ∃ pr ∈ L, pr.1 ≤ q ∧ q < pr.2

theorem inL_nil (q : Nat) : ¬ inL [] q := by simp [inL]

theorem inL_append (L₁ L₂ : List (Nat × Nat)) (q : Nat) : inL (L₁ ++ L₂) q ↔ inL L₁ q ∨ inL L₂ q := by
  simp only [inL, List.mem_append, or_and_right, exists_or]

theorem inL_single (s e q : Nat) : inL [(s, e)] q ↔ s ≤ q ∧ q < e := by
  simp only [inL, List.mem_singleton, exists_eq_left]

/-- outside a run, positions where `f` is false change nothing -/
theorem rstep_false (f : Nat → Bool) (ps : List Nat) (h : ∀ p ∈ ps, f p = false) (acc : List (Nat × Nat)) :
    ps.foldl (rstep f) (acc, none) = (acc, none) := by
  induction ps with
  | nil => rfl
  | cons p t ih =>
    rw [List.foldl_cons, rstep, h p List.mem_cons_self]
    exact ih fun q hq => h q (List.mem_cons_of_mem _ hq)

/-- inside a run, positions where `f` is true change nothing -/
theorem rstep_true (f : Nat → Bool) (ps : List Nat) (h : ∀ p ∈ ps, f p = true) (acc : List (Nat × Nat)) (s : Nat) :
    ps.foldl (rstep f) (acc, some s) = (acc, some s) := by
  induction ps with
  | nil => rfl
  | cons p t ih =>
    rw [List.foldl_cons, rstep, h p List.mem_cons_self]
    exact ih fun q hq => h q (List.mem_cons_of_mem _ hq)

theorem range'_split {a b c : Nat} (h1 : a ≤ b) (h2 : b ≤ c) :
    List.range' a (c - a) = List.range' a (b - a) ++ List.range' b (c - b) := by
  have := @List.range'_append_1 a (b - a) (c - b)
  rwa [Nat.add_sub_cancel' h1, ← Nat.sub_add_comm h1, Nat.add_sub_cancel' h2, eq_comm] at this

theorem range'_head {a c : Nat} (h : a < c) : List.range' a (c - a) = a :: List.range' (a + 1) (c - (a + 1)) := by
  rw [Nat.sub_add_eq, ← List.range'_succ, Nat.sub_add_cancel (Nat.sub_pos_of_lt h)]

/-- Scanning from a position `k` at or before a canonical list `L`, with `f` its indicator on `[k, n)`, appends
the pairs of `L`: before each interval `f` is false, inside it true, and at its stop false again, since the next
interval starts strictly later. Only the last interval may reach the bound `n`; its run is closed by `rfin`. -/
theorem runs_canonical (f : Nat → Bool) (n : Nat) (L : List (Iv α)) (hc : Canonical L) (hn : ∀ iv ∈ L, iv.stop ≤ n) :
    ∀ (k : Nat) (acc : List (Nat × Nat)), (∀ iv ∈ L, k ≤ iv.start) → (∀ p, k ≤ p → p < n → f p = coveredB L p) →
      rfin ((List.range' k (n - k)).foldl (rstep f) (acc, none)) n = acc ++ L.map (fun i => (i.start, i.stop)) := by
  induction L with
  | nil =>
    intro k acc _ hf
    rw [rstep_false f _ fun p hp => hf p (List.mem_range'_1.mp hp).1 (by have := List.mem_range'_1.mp hp; omega)]
    exact (List.append_nil acc).symm
  | cons a t ih =>
    intro k acc hk hf
    have hp := List.pairwise_cons.mp hc.2
    have ha := hc.1 a List.mem_cons_self
    have han := hn a List.mem_cons_self
    have hka := hk a List.mem_cons_self
    have hf' : ∀ p, k ≤ p → p < n → f p = (a.covers p || coveredB t p) := hf
    have ht : ∀ p, p ≤ a.stop → coveredB t p = false := fun p => coveredB_of_le_stop hp.1
    have h1 : ∀ p ∈ List.range' k (a.start - k), f p = false := fun p hp' => by
      have := List.mem_range'_1.mp hp'
      rw [hf' p this.1 (by omega), ht p (by omega), Bool.or_false, Bool.eq_false_iff, Ne, Iv.covers_iff]
      omega
    have h2 : ∀ p ∈ List.range' (a.start + 1) (a.stop - (a.start + 1)), f p = true := fun p hp' => by
      have := List.mem_range'_1.mp hp'
      rw [hf' p (by omega) (by omega), Bool.or_eq_true, Iv.covers_iff]
      exact Or.inl (by omega)
    have h3 : f a.start = true := by
      rw [hf' _ hka (Nat.lt_of_lt_of_le ha han), Bool.or_eq_true, Iv.covers_iff]; exact Or.inl ⟨Nat.le_refl _, ha⟩
    rw [range'_split hka (Nat.le_of_lt (Nat.lt_of_lt_of_le ha han)), List.foldl_append, rstep_false f _ h1,
      range'_head (Nat.lt_of_lt_of_le ha han), List.foldl_cons, rstep, h3,
      range'_split (Nat.succ_le_of_lt ha) han, List.foldl_append, rstep_true f _ h2]
    rcases Nat.lt_or_ge a.stop n with hlt | hge
    · have h4 : f a.stop = false := by
        rw [hf' _ (by omega) hlt, ht _ (Nat.le_refl _), Bool.or_false, Bool.eq_false_iff, Ne, Iv.covers_iff]
        omega
      rw [range'_head hlt, List.foldl_cons, rstep, h4,
        ih ⟨fun x hx => hc.1 x (List.mem_cons_of_mem _ hx), hp.2⟩ (fun x hx => hn x (List.mem_cons_of_mem _ hx))
          (a.stop + 1) _ hp.1 fun p hp' hpn => by
            rw [hf' p (by omega) hpn, Bool.or_eq_right_iff_imp.mpr]
            intro h; rw [Iv.covers_iff] at h; omega,
        List.map_cons, List.append_assoc, List.singleton_append]
    · -- `a` reaches the bound, so nothing follows it
      obtain rfl : t = [] := List.eq_nil_iff_forall_not_mem.mpr fun x hx => by
        have := hp.1 x hx; have := hc.1 x (List.mem_cons_of_mem _ hx); have := hn x (List.mem_cons_of_mem _ hx); omega
      rw [Nat.sub_eq_zero_of_le hge]
      show acc ++ [(a.start, n)] = acc ++ [(a.start, a.stop)]
      rw [Nat.le_antisymm han hge]

/-- the pairs of a canonical list below `n` are the runs of any `f` that is its indicator below `n` -/
theorem runsOf_canonical (f : Nat → Bool) (n : Nat) (L : List (Iv α)) (hc : Canonical L) (hn : ∀ iv ∈ L, iv.stop ≤ n)
    (hf : ∀ p, p < n → f p = coveredB L p) : runsOf f n = L.map (fun i => (i.start, i.stop)) := by
  have := runs_canonical f n L hc hn 0 [] (fun _ _ => Nat.zero_le _) (fun p _ => hf p)
  rwa [Nat.sub_zero, ← List.range_eq_range'] at this

theorem inL_map (L : List (Iv α)) (q : Nat) : inL (L.map (fun i => (i.start, i.stop))) q ↔ covered L q := by
  constructor
  · rintro ⟨_, hpr, h⟩
    obtain ⟨iv, hiv, rfl⟩ := List.mem_map.mp hpr
    exact ⟨iv, hiv, (Iv.covers_iff _ _).mpr h⟩
  · exact fun ⟨iv, hiv, h⟩ => ⟨_, List.mem_map_of_mem hiv, (Iv.covers_iff _ _).mp h⟩

/-- `runsOf f n`: non-empty, separated pairs covering exactly `{q < n | f q}`. They are the merged unit
intervals of these positions. -/
theorem runsOf_spec (f : Nat → Bool) (n : Nat) :
    (∀ pr ∈ runsOf f n, pr.1 < pr.2) ∧ (runsOf f n).Pairwise (fun a b => a.2 < b.1) ∧
    ∀ q, inL (runsOf f n) q ↔ (q < n ∧ f q = true) := by
  have hmem : ∀ iv : Iv Unit, iv ∈ ((List.range n).filter f).map (fun q => (⟨q, q + 1, ()⟩ : Iv Unit)) ↔
      iv.start < n ∧ f iv.start = true ∧ iv.stop = iv.start + 1 := fun iv => by
    simp only [List.mem_map, List.mem_filter, List.mem_range]
    exact ⟨fun ⟨q, hq, h⟩ => h ▸ ⟨hq.1, hq.2, rfl⟩, fun ⟨h1, h2, h3⟩ => ⟨iv.start, ⟨h1, h2⟩, by rw [← h3]⟩⟩
  have hcov : ∀ q, covered (((List.range n).filter f).map (fun q => (⟨q, q + 1, ()⟩ : Iv Unit))) q ↔ q < n ∧ f q = true :=
    fun q => by
      constructor
      · rintro ⟨iv, hiv, hc⟩
        obtain ⟨h1, h2, h3⟩ := (hmem iv).mp hiv
        rw [Iv.covers_iff] at hc
        obtain rfl : iv.start = q := by omega
        exact ⟨h1, h2⟩
      · exact fun ⟨h1, h2⟩ => ⟨⟨q, q + 1, ()⟩, (hmem _).mpr ⟨h1, h2, rfl⟩, (Iv.covers_iff _ _).mpr ⟨Nat.le_refl _, Nat.lt_succ_self _⟩⟩
  obtain ⟨hc, hm⟩ := mergeList_canonical _
    (List.pairwise_map.mpr ((List.pairwise_lt_range.sublist List.filter_sublist).imp Nat.le_of_lt))
    (fun iv hiv => by rw [((hmem iv).mp hiv).2.2]; exact Nat.lt_succ_self _)
  have hL : ∀ q, covered (mergeList _) q ↔ q < n ∧ f q = true := fun q => (hm q).trans (hcov q)
  rw [runsOf_canonical f n _ hc
    (fun iv hiv => by
      have := hc.1 iv hiv
      have := ((hL (iv.stop - 1)).mp ⟨iv, hiv, (Iv.covers_iff _ _).mpr (by omega)⟩).1
      omega)
    (fun p hp => Bool.eq_iff_iff.mpr (by rw [coveredB_iff_covered, hL]; exact ⟨fun h => ⟨hp, h⟩, fun h => h.2⟩))]
  exact ⟨fun pr hpr => by obtain ⟨iv, hiv, rfl⟩ := List.mem_map.mp hpr; exact hc.1 iv hiv,
    List.pairwise_map.mpr hc.2, fun q => (inL_map _ q).trans (hL q)⟩

/-- a canonical list is THE canonical cover of every list covering the same positions -/
theorem canonicalCover_eq (L : List (Iv β)) (l : List (Iv α)) (hc : Canonical L) (h : ∀ p, covered L p ↔ covered l p) :
    canonicalCover l = L.map (fun i => (i.start, i.stop)) := by
  unfold canonicalCover
  refine runsOf_canonical _ _ L hc (fun iv hiv => ?_) fun p _ => (coveredB_congr h p).symm
  -- the last position of `iv` is covered, hence below `maxStop l`
  have hne := hc.1 iv hiv
  have hcov : coveredB l (iv.stop - 1) = true :=
    (coveredB_iff_covered _ _).mpr ((h _).mp ⟨iv, hiv, (Iv.covers_iff _ _).mpr (by omega)⟩)
  have := coveredB_lt (maxStop_ge l) _ hcov
  omega

end C18h
end BV
