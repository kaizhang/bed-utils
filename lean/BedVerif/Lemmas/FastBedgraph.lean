import BedVerif.Lemmas.C08Spec
import BedVerif.Lemmas.C08Chunk
import BedVerif.Lemmas.FastDepth
/-!
`BedgraphSpec` determines the output (`bedgraphSpec_unique`, for EVERY input), and the output is computed
without enumerating positions (`fastBedgraph'`): per chromosome the pair (covered?, sum) is coded as a step
function into `ℕ` (`lineF`), so that the sweep of `Lemmas/FastDepth.lean` (`RLEFrom`, `fuse_segs_spec`,
`pushRun`, proved there for every step function) is reused as it stands.
The driver imports this file next to `Lemmas/LapperInv.lean`, which declares a `BV.Inv` as `Lemmas/MergeBed.lean`
does: nothing here may depend on the proofs about the model; `Props/C08Fast.lean` ties the two together.
-/
namespace BV

/-- the clauses that speak about the output alone, relative to a value function `V` -/
structure Tidy (V : Bytes → Nat → Int) (L : List BG) : Prop where
  ne : ∀ o ∈ L, o.start < o.stop
  sorted : L.Pairwise (fun a b => Rec.compare a.toRec b.toRec ≠ .gt)
  adj : ∀ i (h : i + 1 < L.length), L[i].chrom ≠ L[i+1].chrom ∨ L[i].stop ≤ L[i+1].start
  val : ∀ o ∈ L, ∀ p, o.start ≤ p → p < o.stop → o.value = V o.chrom p
  maxi : ∀ i (h : i + 1 < L.length), L[i].chrom = L[i+1].chrom → L[i].stop = L[i+1].start → L[i].value ≠ L[i+1].value

section
variable {V : Bytes → Nat → Int}

theorem Tidy.tail {a : BG} {as : List BG} (h : Tidy V (a :: as)) : Tidy V as where
  ne := fun o ho => h.ne o (List.mem_cons_of_mem _ ho)
  sorted := (List.pairwise_cons.mp h.sorted).2
  adj := fun i hi => h.adj (i+1) (Nat.succ_lt_succ hi)
  val := fun o ho => h.val o (List.mem_cons_of_mem _ ho)
  maxi := fun i hi => h.maxi (i+1) (Nat.succ_lt_succ hi)

theorem Tidy.adj_head {a a' : BG} {as : List BG} (h : Tidy V (a :: a' :: as)) :
    a.chrom ≠ a'.chrom ∨ a.stop ≤ a'.start :=
  h.adj 0 (Nat.succ_lt_succ (Nat.zero_lt_succ _))

theorem Tidy.maxi_head {a a' : BG} {as : List BG} (h : Tidy V (a :: a' :: as)) :
    a.chrom = a'.chrom → a.stop = a'.start → a.value ≠ a'.value :=
  h.maxi 0 (Nat.succ_lt_succ (Nat.zero_lt_succ _))

theorem Tidy.head_le {a : BG} {as : List BG} (h : Tidy V (a :: as)) :
    ∀ o ∈ as, cmpBytes a.chrom o.chrom ≠ .gt ∧ (a.chrom = o.chrom → a.start ≤ o.start) := by
  intro o ho
  have := (List.pairwise_cons.mp h.sorted).1 o ho
  exact ⟨compare_chrom this, fun hc => compare_start this hc⟩

theorem Tidy.head_sep : ∀ {as : List BG} {a : BG}, Tidy V (a :: as) →
    ∀ o ∈ as, o.chrom = a.chrom → a.stop ≤ o.start
  | [], _, _ => fun o ho => nomatch ho
  | a' :: rest, a, h => by
    intro o ho hc
    rcases List.mem_cons.mp ho with rfl | ho'
    · exact h.adj_head.resolve_left (fun h0 => h0 hc.symm)
    · have h1 := (h.head_le a' List.mem_cons_self).1
      have h2 := (h.tail.head_le o ho').1
      rw [hc] at h2
      have hca : a.chrom = a'.chrom := cmpBytes_antisymm h1 h2
      have h3 := Tidy.head_sep h.tail o ho' (hc.trans hca)
      have h4 := h.ne a' (List.mem_cons_of_mem _ List.mem_cons_self)
      have := h.adj_head.resolve_left (fun h0 => h0 hca)
      omega

theorem covered_cons (a : BG) (as : List BG) (c : Bytes) (p : Nat) :
    coveredByBG (a :: as) c p ↔ (a.chrom = c ∧ a.toRec.mem p) ∨ coveredByBG as c p := by
  simp only [coveredByBG, List.mem_cons, or_and_right, exists_or, exists_eq_left]

theorem Tidy.cov_tail {a : BG} {as : List BG} (h : Tidy V (a :: as)) (c : Bytes) (p : Nat) :
    coveredByBG as c p ↔ coveredByBG (a :: as) c p ∧ ¬ (a.chrom = c ∧ a.toRec.mem p) := by
  rw [covered_cons]
  constructor
  · intro hc
    refine ⟨Or.inr hc, ?_⟩
    rintro ⟨h1, h2⟩
    obtain ⟨o, ho, ho1, ho2⟩ := hc
    have := h.head_sep o ho (ho1.trans h1.symm)
    rw [bg_mem_iff] at h2 ho2
    omega
  · rintro ⟨h1 | h1, h2⟩
    · exact absurd h1 h2
    · exact h1

theorem Tidy.heads_le {a b : BG} {as bs : List BG}
    (ha : Tidy V (a :: as)) (hb : Tidy V (b :: bs))
    (hcov : ∀ c p, coveredByBG (a :: as) c p → coveredByBG (b :: bs) c p) :
    cmpBytes b.chrom a.chrom ≠ .gt ∧ (b.chrom = a.chrom → b.start ≤ a.start) := by
  have hane := ha.ne a List.mem_cons_self
  obtain ⟨o, ho, ho1, ho2⟩ := hcov a.chrom a.start
    ⟨a, List.mem_cons_self, rfl, (bg_mem_iff _ _).mpr ⟨Nat.le_refl _, hane⟩⟩
  rw [bg_mem_iff] at ho2
  rcases List.mem_cons.mp ho with rfl | ho'
  · rw [ho1]
    exact ⟨by rw [cmpBytes_refl]; decide, fun _ => ho2.1⟩
  · have := hb.head_le o ho'
    rw [ho1] at this
    exact ⟨this.1, fun hc => Nat.le_trans (this.2 hc) ho2.1⟩

theorem Tidy.stop_not_lt {a b : BG} {as bs : List BG}
    (ha : Tidy V (a :: as)) (hb : Tidy V (b :: bs))
    (hcov : ∀ c p, coveredByBG (b :: bs) c p → coveredByBG (a :: as) c p)
    (hc : a.chrom = b.chrom) (hs : a.start = b.start) (hv : a.value = b.value) : ¬ a.stop < b.stop := by
  intro hlt
  have hane := ha.ne a List.mem_cons_self
  obtain ⟨o, ho, ho1, ho2⟩ := hcov b.chrom a.stop
    ⟨b, List.mem_cons_self, rfl, (bg_mem_iff _ _).mpr ⟨by omega, hlt⟩⟩
  rw [bg_mem_iff] at ho2
  rcases List.mem_cons.mp ho with rfl | ho'
  · omega
  · have hsep := ha.head_sep o ho' (ho1.trans hc.symm)
    cases as with
    | nil => cases ho'
    | cons a' rest =>
      have ha'ne := ha.ne a' (List.mem_cons_of_mem _ List.mem_cons_self)
      have h1 := (ha.head_le a' List.mem_cons_self).1
      -- `a'` lies on the chromosome of `a` and begins where `a` ends
      have key : a.chrom = a'.chrom ∧ a'.start ≤ o.start := by
        rcases List.mem_cons.mp ho' with rfl | ho''
        · exact ⟨hc.trans ho1.symm, Nat.le_refl _⟩
        · have h2 := ha.tail.head_le o ho''
          have h2' := h2.1
          rw [ho1, ← hc] at h2'
          have hca : a.chrom = a'.chrom := cmpBytes_antisymm h1 h2'
          exact ⟨hca, h2.2 (hca.symm.trans (hc.trans ho1.symm))⟩
      obtain ⟨hca, hle⟩ := key
      have hst : a.stop = a'.start := by
        have := ha.adj_head.resolve_left (fun h0 => h0 hca)
        omega
      have hv1 := ha.val a' (List.mem_cons_of_mem _ List.mem_cons_self) a'.start (Nat.le_refl _) ha'ne
      have hv2 := hb.val b List.mem_cons_self a.stop (by omega) hlt
      rw [← hca, hc, ← hst, ← hv2] at hv1
      exact ha.maxi_head hca hst (hv.trans hv1.symm)

theorem tidy_unique : ∀ (L₁ L₂ : List BG), Tidy V L₁ → Tidy V L₂ →
    (∀ c p, coveredByBG L₁ c p ↔ coveredByBG L₂ c p) → L₁ = L₂
  | [], [], _, _, _ => rfl
  | [], b :: bs, _, h2, hcov => by
    have hb := h2.ne b List.mem_cons_self
    obtain ⟨o, ho, _⟩ := (hcov b.chrom b.start).mpr
      ⟨b, List.mem_cons_self, rfl, (bg_mem_iff _ _).mpr ⟨Nat.le_refl _, hb⟩⟩
    cases ho
  | a :: as, [], h1, _, hcov => by
    have ha := h1.ne a List.mem_cons_self
    obtain ⟨o, ho, _⟩ := (hcov a.chrom a.start).mp
      ⟨a, List.mem_cons_self, rfl, (bg_mem_iff _ _).mpr ⟨Nat.le_refl _, ha⟩⟩
    cases ho
  | a :: as, b :: bs, h1, h2, hcov => by
    have hab := Tidy.heads_le h1 h2 (fun c p => (hcov c p).mp)
    have hba := Tidy.heads_le h2 h1 (fun c p => (hcov c p).mpr)
    have hc : a.chrom = b.chrom := cmpBytes_antisymm hba.1 hab.1
    have hs : a.start = b.start := Nat.le_antisymm (hba.2 hc) (hab.2 hc.symm)
    have ha := h1.ne a List.mem_cons_self
    have hv : a.value = b.value := by
      rw [h1.val a List.mem_cons_self a.start (Nat.le_refl _) ha,
        h2.val b List.mem_cons_self a.start (Nat.le_of_eq hs.symm) (hs ▸ h2.ne b List.mem_cons_self), hc]
    have he : a.stop = b.stop := by
      have := Tidy.stop_not_lt h1 h2 (fun c p => (hcov c p).mpr) hc hs hv
      have := Tidy.stop_not_lt h2 h1 (fun c p => (hcov c p).mp) hc.symm hs.symm hv.symm
      omega
    have hab : a = b := by
      cases a; cases b; simp only at hc hs hv he; subst hc hs hv he; rfl
    subst hab
    rw [tidy_unique as bs h1.tail h2.tail]
    intro c p
    rw [h1.cov_tail, h2.cov_tail, hcov c p]

end

theorem BedgraphSpec.tidy {xs out : List BG} (h : BedgraphSpec xs out) : Tidy (sumAt xs) out where
  ne := h.1
  sorted := List.pairwise_map.mp h.2.1
  adj := h.2.2.1
  val := fun o ho p h1 h2 => h.2.2.2.2.1 o ho p ⟨h1, h2⟩
  maxi := h.2.2.2.2.2

/-- two outputs meeting the six clauses for the same input are equal, whatever the input -/
theorem bedgraphSpec_unique (xs out₁ out₂ : List BG) (h₁ : BedgraphSpec xs out₁) (h₂ : BedgraphSpec xs out₂) :
    out₁ = out₂ :=
  tidy_unique out₁ out₂ h₁.tidy h₂.tidy (fun c p => (h₁.2.2.2.1 c p).symm.trans (h₂.2.2.2.1 c p))

/-! Per chromosome the covered positions and the sums form a step function of the position that changes
at the endpoints only. It is coded as a function into `ℕ`: `0` = not covered, `1 + encZ v` = covered
with sum `v`. -/

/-- an injective coding of `ℤ` in `ℕ` -/
def encZ (v : Int) : Nat := if 0 ≤ v then 2 * v.toNat else 2 * (-v).toNat + 1
def decZ (n : Nat) : Int := if n % 2 = 0 then ((n / 2 : Nat) : Int) else -((n / 2 : Nat) : Int)

theorem decZ_encZ (v : Int) : decZ (encZ v) = v := by
  unfold decZ encZ
  by_cases hv : 0 ≤ v
  · rw [if_pos hv, if_pos (Nat.mul_mod_right 2 _), Nat.mul_div_cancel_left _ (by decide : 0 < 2)]
    exact Int.toNat_of_nonneg hv
  · rw [if_neg hv, if_neg (by omega), show (2 * (-v).toNat + 1) / 2 = (-v).toNat by omega,
      Int.toNat_of_nonneg (by omega)]
    omega

/-- the records of one chromosome as weighted intervals -/
def ivsOf (g : List BG) : List (Iv Int) := g.map (fun b => ⟨b.start, b.stop, b.value⟩)

def wsum (l : List (Iv Int)) (p : Nat) : Int := ((l.filter (·.covers p)).map (·.val)).sum

/-- `0` where nothing covers `p`, else `1 +` the code of the sum at `p` -/
def lineF (l : List (Iv Int)) (p : Nat) : Nat := if depthOf l p = 0 then 0 else encZ (wsum l p) + 1

theorem wsum_step (l : List (Iv Int)) (p x : Nat) (hpx : p ≤ x)
    (h : ∀ e ∈ endpoints l, ¬ (p < e ∧ e ≤ x)) : wsum l x = wsum l p := by
  unfold wsum
  congr 2
  apply List.filter_congr
  intro iv hiv
  have h1 := h _ (start_mem_endpoints hiv)
  have h2 := h _ (stop_mem_endpoints hiv)
  rw [Bool.eq_iff_iff, Iv.covers_iff, Iv.covers_iff]
  omega

theorem lineF_step (l : List (Iv Int)) (p x : Nat) (hpx : p ≤ x)
    (h : ∀ e ∈ endpoints l, ¬ (p < e ∧ e ≤ x)) : lineF l x = lineF l p := by
  unfold lineF
  rw [depthOf_step l p x hpx h, wsum_step l p x hpx h]

theorem lineF_beyond (l : List (Iv Int)) (x : Nat) (h : ∀ e ∈ endpoints l, e ≤ x) : lineF l x = 0 := by
  unfold lineF
  rw [depthOf_beyond l x h]
  rfl

/-- the maximal run-length encoding of `lineF l`; the value at each breakpoint is computed directly
(`O(n)` each) -/
def lineRuns (l : List (Iv Int)) : List (Iv Nat) := fuseRuns (segsOf (lineF l) (depthBreaks l))

theorem lineRuns_spec (l : List (Iv Int)) : RLEFrom (lineF l) 0 (lineRuns l) := by
  apply fuse_segs_spec (lineF l) (endpoints l) (lineF_step l) (lineF_beyond l) _ 0 (depthBreaks_sorted l)
  intro e he _
  exact (List.mergeSort_perm _ _).mem_iff.mpr he

/-- put a record in front of the groups of the records after it -/
def pushChrom (x : BG) : List (Bytes × List BG) → List (Bytes × List BG)
  | [] => [(x.chrom, [x])]
  | (k, g) :: rest => if x.chrom = k then (k, x :: g) :: rest else (x.chrom, [x]) :: (k, g) :: rest

/-- the maximal runs of records of equal chromosome, in order (one pass, from the right) -/
def chromGroups (xs : List BG) : List (Bytes × List BG) := xs.foldr pushChrom []

theorem chromGroups_eq (xs : List BG) : chromGroups xs = chunkBy BG.chrom xs := by
  induction xs with
  | nil => rfl
  | cons x t ih =>
    rw [C08.chunkBy_cons, ← ih]
    show pushChrom x (chromGroups t) = _
    cases chromGroups t <;> rfl

/-- on an input with its chromosomes in order the runs are the chromosomes: no chromosome comes back -/
theorem chromGroups_ok (xs : List BG) (hs : xs.Pairwise (fun a b => cmpBytes a.chrom b.chrom ≠ .gt)) :
    (chromGroups xs).Pairwise (fun kg kg' => Apart kg.2 kg'.2) := by
  rw [chromGroups_eq]
  refine (C08.chunkBy_pairwise BG.chrom (fun a b => cmpBytes a b ≠ .gt) (fun _ _ => cmpBytes_antisymm) xs hs).imp_of_mem ?_
  intro kg kg' hkg hkg' ⟨h1, h2⟩ a ha b hb
  rw [(C08.chunkBy_mem _ _ kg hkg).2 a ha, (C08.chunkBy_mem _ _ kg' hkg').2 b hb]
  exact ⟨h1, Or.inl h2⟩

def toBG (k : Bytes) (r : Iv Nat) : BG := ⟨k, r.start, r.stop, decZ (r.val - 1)⟩

theorem depth_cov {k : Bytes} {g : List BG} (hk : ∀ b ∈ g, b.chrom = k) (p : Nat) :
    0 < depthOf (ivsOf g) p ↔ coveredByBG g k p := by
  unfold depthOf ivsOf coveredByBG
  rw [List.countP_map, List.countP_pos_iff]
  simp only [Function.comp, Iv.covers_iff]
  exact ⟨fun ⟨b, hb, h⟩ => ⟨b, hb, hk b hb, h⟩, fun ⟨b, hb, _, h⟩ => ⟨b, hb, h⟩⟩

theorem wsum_sumAt {k : Bytes} {g : List BG} (hk : ∀ b ∈ g, b.chrom = k) (p : Nat) :
    wsum (ivsOf g) p = sumAt g k p := by
  unfold wsum ivsOf sumAt
  rw [List.filter_map, List.map_map]
  congr 1
  show List.map (fun b : BG => b.value) _ = _
  congr 1
  apply List.filter_congr
  intro b hb
  rw [Bool.eq_iff_iff]
  simp only [Function.comp, Iv.covers_iff, decide_eq_true_eq, bg_mem_iff, hk b hb, true_and]

theorem lineF_of_cov {k : Bytes} {g : List BG} (hk : ∀ b ∈ g, b.chrom = k) {p : Nat} (h : coveredByBG g k p) :
    lineF (ivsOf g) p = encZ (sumAt g k p) + 1 := by
  unfold lineF
  rw [if_neg (Nat.ne_of_gt ((depth_cov hk p).mpr h)), wsum_sumAt hk]

theorem cov_of_lineF {k : Bytes} {g : List BG} (hk : ∀ b ∈ g, b.chrom = k) {p : Nat} (h : 0 < lineF (ivsOf g) p) :
    coveredByBG g k p := by
  refine (depth_cov hk p).mp (Nat.pos_of_ne_zero (fun h0 => ?_))
  unfold lineF at h
  rw [if_pos h0] at h
  exact Nat.lt_irrefl _ h

theorem runs_pointwise {k : Bytes} {g : List BG} (hk : ∀ b ∈ g, b.chrom = k) {rs : List (Iv Nat)}
    (R : RLEFrom (lineF (ivsOf g)) 0 rs) : Pointwise g (rs.map (toBG k)) := by
  -- inside a run the input is covered and the run carries the code of the sum
  have val : ∀ r ∈ rs, ∀ p, r.start ≤ p → p < r.stop → coveredByBG g k p ∧ r.val = encZ (sumAt g k p) + 1 := by
    intro r hr p h1 h2
    obtain ⟨_, _, hv, hin⟩ := R.mem r hr
    have e := hin p h1 h2
    have hc := cov_of_lineF hk (e ▸ hv)
    exact ⟨hc, e.symm.trans (lineF_of_cov hk hc)⟩
  refine ⟨?_, ?_, ?_, ?_, ?_⟩
  · intro o ho
    obtain ⟨r, hr, rfl⟩ := List.mem_map.mp ho
    exact (R.mem r hr).2.1
  · exact List.pairwise_map.mpr (R.pairwise.imp_of_mem
      (fun {a b} ha _ hab => before_of_stop (x := toBG k a) (y := toBG k b) rfl (R.mem a ha).2.1 hab))
  · intro c p
    constructor
    · rintro ⟨b, hb, bc, bm⟩
      have hc : coveredByBG g k p := ⟨b, hb, hk b hb, bm⟩
      have hpos : 0 < lineF (ivsOf g) p := by rw [lineF_of_cov hk hc]; exact Nat.succ_pos _
      obtain ⟨r, hr, hrc⟩ := (R.tiles p (Nat.zero_le _)).mp hpos
      exact ⟨toBG k r, List.mem_map.mpr ⟨r, hr, rfl⟩, (hk b hb).symm.trans bc, (Iv.covers_iff r p).mp hrc⟩
    · rintro ⟨o, ho, oc, om⟩
      obtain ⟨r, hr, rfl⟩ := List.mem_map.mp ho
      exact oc ▸ (val r hr p om.1 om.2).1
  · intro o ho p hm
    obtain ⟨r, hr, rfl⟩ := List.mem_map.mp ho
    show decZ (r.val - 1) = sumAt g k p
    rw [(val r hr p hm.1 hm.2).2, Nat.add_sub_cancel, decZ_encZ]
  · intro o ho hcov hval
    obtain ⟨r, hr, rfl⟩ := List.mem_map.mp ho
    have hcov : coveredByBG g k r.stop := hcov
    have hval : sumAt g k r.stop = decZ (r.val - 1) := hval
    apply R.stop_ne r hr
    rw [lineF_of_cov hk hcov, hval, (val r hr r.start (Nat.le_refl _) (R.mem r hr).2.1).2, Nat.add_sub_cancel,
      decZ_encZ]

/-! The `O(n log n)` computation: coverage and sum at the breakpoints as running totals -/

def wle (X : List (Nat × Int)) (p : Nat) : Int := C08.fsum (fun q => decide (q ≤ p)) X

/-- drop the leading events at positions `≤ p`, adding their weights to `n` -/
def dropLEW (p : Nat) : List (Nat × Int) → Int → List (Nat × Int) × Int
  | [], n => ([], n)
  | e :: X, n => if e.1 ≤ p then dropLEW p X (n + e.2) else (e :: X, n)

theorem dropLEW_step {WF : List (Nat × Int)} {a : Nat} : ∀ {W : List (Nat × Int)} {w : Int},
    W.Pairwise (fun a b => a.1 ≤ b.1) → (∀ x, a ≤ x → wle WF x = w + wle W x) →
    (dropLEW a W w).1.Pairwise (fun a b => a.1 ≤ b.1) ∧ (dropLEW a W w).2 = wle WF a ∧
      ∀ x, a ≤ x → wle WF x = (dropLEW a W w).2 + wle (dropLEW a W w).1 x
  | [], w, hW, h => ⟨hW, ((h a (Nat.le_refl _)).trans (Int.add_zero w)).symm, h⟩
  | e :: X, w, hW, h => by
    have hp := List.pairwise_cons.mp hW
    unfold dropLEW
    split
    · rename_i he
      refine dropLEW_step hp.2 (fun x hx => ?_)
      rw [h x hx, wle, C08.fsum_cons, if_pos (decide_eq_true (Nat.le_trans he hx)), Int.add_assoc]
      rfl
    · rename_i he
      refine ⟨hW, ?_, h⟩
      rw [h a (Nat.le_refl _), wle, C08.fsum_eq_zero, Int.add_zero]
      intro y hy
      have : e.1 ≤ y.1 := by
        rcases List.mem_cons.mp hy with rfl | hy
        · exact Nat.le_refl _
        · exact hp.1 y hy
      exact decide_eq_false (by omega)

/-- the segments between consecutive breakpoints with the value of `lineF`, by a single sweep,
accumulated in reverse (tail recursive): `S`, `E`, `W` are the not yet consumed sorted starts, stops
and weighted events, `nS`, `nE`, `w` the numbers of starts and stops and the total weight already
consumed -/
def sweepBGRev : List (Iv Nat) → List Nat → List Nat → List Nat → List (Nat × Int) → Nat → Nat → Int → List (Iv Nat)
  | acc, p :: q :: ps, S, E, W, nS, nE, w =>
    let dS := dropLE p S nS
    let dE := dropLE p E nE
    let dW := dropLEW p W w
    sweepBGRev (⟨p, q, if dS.2 - dE.2 = 0 then 0 else encZ dW.2 + 1⟩ :: acc) (q :: ps) dS.1 dE.1 dW.1 dS.2 dE.2 dW.2
  | acc, [_], _, _, _, _, _, _ => acc
  | acc, [], _, _, _, _, _, _ => acc

theorem sweepBG_eq (f : Nat → Nat) (SF EF : List Nat) (WF : List (Nat × Int))
    (hf : ∀ p, f p = if cle SF p - cle EF p = 0 then 0 else encZ (wle WF p) + 1) :
    ∀ (t : List Nat) (a : Nat) (acc : List (Iv Nat)) (S E : List Nat) (W : List (Nat × Int)) (nS nE : Nat) (w : Int),
      (a :: t).Pairwise (· ≤ ·) →
      S.Pairwise (· ≤ ·) → E.Pairwise (· ≤ ·) → W.Pairwise (fun a b => a.1 ≤ b.1) →
      (∀ x, a ≤ x → cle SF x = nS + cle S x) → (∀ x, a ≤ x → cle EF x = nE + cle E x) →
      (∀ x, a ≤ x → wle WF x = w + wle W x) →
      sweepBGRev acc (a :: t) S E W nS nE w = (segsOf f (a :: t)).reverse ++ acc
  | [], a, _, _, _, _, _, _, _, _, _, _, _, _, _, _ => rfl
  | b :: t, a, acc, S, E, W, nS, nE, w, hpw, hS, hE, hW, iS, iE, iW => by
    have hp := List.pairwise_cons.mp hpw
    have hab : a ≤ b := hp.1 b List.mem_cons_self
    obtain ⟨sS, vS, jS⟩ := dropLE_step hS iS
    obtain ⟨sE, vE, jE⟩ := dropLE_step hE iE
    obtain ⟨sW, vW, jW⟩ := dropLEW_step hW iW
    rw [sweepBGRev, segsOf_cons_cons, List.reverse_cons, List.append_assoc, List.singleton_append, hf a,
      ← vS, ← vE, ← vW]
    exact sweepBG_eq f SF EF WF hf t b _ _ _ _ _ _ _ hp.2 sS sE sW (fun x hx => jS x (Nat.le_trans hab hx))
      (fun x hx => jE x (Nat.le_trans hab hx)) (fun x hx => jW x (Nat.le_trans hab hx))

/-- the weighted events of a list of intervals: `+val` at the start, `−val` at the stop -/
def wevents (l : List (Iv Int)) : List (Nat × Int) := l.flatMap fun iv => [(iv.start, iv.val), (iv.stop, -iv.val)]

theorem wsum_eq_events (l : List (Iv Int)) (hl : ∀ iv ∈ l, iv.start ≤ iv.stop) (p : Nat) :
    wsum l p = wle (wevents l) p := by
  unfold wsum wle wevents
  rw [C08.fsum_events Iv.start Iv.stop Iv.val l hl]
  congr 2
  exact List.filter_congr (fun iv _ => by rw [Bool.eq_iff_iff, Iv.covers_iff, decide_eq_true_eq])

theorem sorted_mergeSort_ev (X : List (Nat × Int)) :
    (X.mergeSort (fun a b => decide (a.1 ≤ b.1))).Pairwise (fun a b => a.1 ≤ b.1) := by
  have := List.pairwise_mergeSort (le := fun (a b : Nat × Int) => decide (a.1 ≤ b.1))
    (fun a b c hab hbc => by simp only [decide_eq_true_eq] at *; omega)
    (fun a b => by simp only [Bool.or_eq_true, decide_eq_true_eq]; omega) X
  exact this.imp (fun hab => of_decide_eq_true hab)

theorem wle_mergeSort (X : List (Nat × Int)) (p : Nat) :
    wle (X.mergeSort (fun a b => decide (a.1 ≤ b.1))) p = wle X p :=
  C08.fsum_perm _ (List.mergeSort_perm X _)

/-- the runs of one line in `O(n log n)`: four merge sorts (endpoints, starts, stops, weighted
events), one linear sweep giving coverage and sum at every breakpoint as running totals, one linear
fusing pass. Empty and inverted intervals are dropped first (they cover nothing). -/
def lineRuns' (l : List (Iv Int)) : List (Iv Nat) :=
  let l' := l.filter (fun iv => iv.start < iv.stop)
  let S := (l'.map (·.start)).mergeSort (fun a b => decide (a ≤ b))
  let E := (l'.map (·.stop)).mergeSort (fun a b => decide (a ≤ b))
  let W := (wevents l').mergeSort (fun a b => decide (a.1 ≤ b.1))
  (sweepBGRev [] (depthBreaks l') S E W 0 0 0).foldl (fun acc r => pushRun r acc) []

theorem wsum_filter_nonempty (l : List (Iv Int)) (p : Nat) :
    wsum (l.filter (fun iv => iv.start < iv.stop)) p = wsum l p := by
  unfold wsum
  rw [List.filter_filter]
  congr 2
  apply List.filter_congr
  intro iv _
  rw [Bool.eq_iff_iff]
  simp only [Iv.covers, Bool.and_eq_true, decide_eq_true_eq]
  omega

theorem lineRuns'_eq_filter (l : List (Iv Int)) :
    lineRuns' l = lineRuns (l.filter (fun iv => iv.start < iv.stop)) := by
  unfold lineRuns' lineRuns
  simp only
  generalize hl' : l.filter (fun iv => iv.start < iv.stop) = l'
  have hne : ∀ iv ∈ l', iv.start ≤ iv.stop := by
    intro iv hiv
    rw [← hl', List.mem_filter] at hiv
    exact Nat.le_of_lt (of_decide_eq_true hiv.2)
  have hf : ∀ p, lineF l' p =
      if cle ((l'.map (·.start)).mergeSort (fun a b => decide (a ≤ b))) p -
          cle ((l'.map (·.stop)).mergeSort (fun a b => decide (a ≤ b))) p = 0 then 0
      else encZ (wle ((wevents l').mergeSort (fun a b => decide (a.1 ≤ b.1))) p) + 1 := by
    intro p
    rw [cle_mergeSort, cle_mergeSort, wle_mergeSort, depthOf_eq_counts l' hne p, ← wsum_eq_events l' hne p,
      Nat.add_sub_cancel]
    rfl
  refine (congrArg (List.foldl (fun acc r => pushRun r acc) []) (sweepBG_eq (lineF l') _ _ _ hf _ 0 [] _ _ _ 0 0 0
    (depthBreaks_sorted l') (sorted_mergeSort_nat _) (sorted_mergeSort_nat _) (sorted_mergeSort_ev _)
    (fun x _ => (Nat.zero_add _).symm) (fun x _ => (Nat.zero_add _).symm) (fun x _ => (Int.zero_add _).symm))).trans ?_
  rw [List.append_nil, List.foldl_reverse]
  rfl

theorem lineRuns'_eq (l : List (Iv Int)) : lineRuns' l = lineRuns l := by
  rw [lineRuns'_eq_filter]
  have h := lineRuns_spec (l.filter (fun iv => iv.start < iv.stop))
  have hf : lineF (l.filter (fun iv => iv.start < iv.stop)) = lineF l := by
    funext p
    unfold lineF
    rw [depthOf_filter_nonempty, wsum_filter_nonempty]
  rw [hf] at h
  exact h.unique (lineRuns_spec l)

/-- THE output of `merge_sorted_bedgraph` on a sorted input in `O(n log n)` -/
def fastBedgraph' (xs : List BG) : List BG :=
  (chromGroups xs).flatMap (fun kg => (lineRuns' (ivsOf kg.2)).map (toBG kg.1))

/-- `fastBedgraph'` meets the clauses whenever the chromosomes of the input are in order; the
records of a chromosome may come in any order, and empty and inverted records cover nothing and add
nothing -/
theorem fastBedgraph'_pointwise (xs : List BG) (hs : xs.Pairwise (fun a b => cmpBytes a.chrom b.chrom ≠ .gt)) :
    Pointwise xs (fastBedgraph' xs) := by
  have := Pointwise.flatMap (·.2) (fun kg => (lineRuns' (ivsOf kg.2)).map (toBG kg.1)) (chromGroups xs)
    (fun kg hkg => runs_pointwise ((C08.chunkBy_mem _ _ kg (chromGroups_eq xs ▸ hkg)).2)
      (lineRuns'_eq _ ▸ lineRuns_spec _))
    (chromGroups_ok xs hs)
  rwa [chromGroups_eq, C08.chunkBy_flatMap, ← chromGroups_eq] at this

theorem fastBedgraph'_spec (xs : List BG) (hs : SortedBGs xs) (hne : ∀ b ∈ xs, b.start < b.stop) :
    BedgraphSpec xs (fastBedgraph' xs) :=
  -- `hne` is not needed: see `fastBedgraph'_pointwise`
  have _ := hne
  (fastBedgraph'_pointwise xs ((List.pairwise_map.mp hs).imp compare_chrom)).spec

/-- whatever meets the six clauses IS `fastBedgraph' xs` -/
theorem bedgraphSpec_iff_eq_fast' (xs out : List BG) (hs : SortedBGs xs) (hne : ∀ b ∈ xs, b.start < b.stop) :
    BedgraphSpec xs out ↔ out = fastBedgraph' xs :=
  ⟨fun h => bedgraphSpec_unique xs _ _ h (fastBedgraph'_spec xs hs hne), fun h => h ▸ fastBedgraph'_spec xs hs hne⟩

#guard fastBedgraph' [⟨[], 0, 10, 1⟩, ⟨[], 0, 10, -1⟩] = [⟨[], 0, 10, 0⟩]
#guard fastBedgraph' [⟨[1], 0, 5, 2⟩, ⟨[1], 5, 9, 2⟩, ⟨[1], 20, 30, 4⟩, ⟨[1], 22, 25, -4⟩, ⟨[2], 3, 4, 7⟩]
    = [⟨[1], 0, 9, 2⟩, ⟨[1], 20, 22, 4⟩, ⟨[1], 22, 25, 0⟩, ⟨[1], 25, 30, 4⟩, ⟨[2], 3, 4, 7⟩]

#print axioms bedgraphSpec_unique
#print axioms tidy_unique
#print axioms chromGroups_ok
#print axioms lineRuns_spec
#print axioms sweepBG_eq
#print axioms lineRuns'_eq
#print axioms fastBedgraph'_spec
#print axioms bedgraphSpec_iff_eq_fast'
end BV
