import BedVerif.Lemmas.C19Count
/-! The moving-interval sweep of `calculate_coverage`. -/
namespace BV
variable {α : Type}

/-- over a start-sorted list of non-empty intervals the overlap test of the sweep is a test on `me` alone -/
theorem covStep_eq (ms me c : Nat) (iv : Iv α) (h1 : ms ≤ iv.start) (h2 : iv.start < iv.stop) :
    covStep ((ms, me), c) iv =
      if iv.start < me then ((ms, max me iv.stop), c) else ((iv.start, iv.stop), c + (me - ms)) := by
  simp only [covStep, Nat.min_eq_left h1, Bool.and_eq_true, decide_eq_true_eq, gt_iff_lt,
    show ms < iv.stop from Nat.lt_of_le_of_lt h1 h2, true_and]

/-- what `calculate_coverage` returns from the final state of its loop -/
def covTotal (st : (Nat × Nat) × Nat) : Nat := st.2 + (st.1.2 - st.1.1)

theorem calcCov_eq (s : Lapper α) : s.calcCov = covTotal (s.intervals.toList.foldl covStep ((0, 0), 0)) := rfl

/-- The sweep is the merge loop without the stack. Its moving interval `[ms, me)` is the top of the merge stack,
cut at `ms` if the sweep has restarted at an interval adjacent to the top (which the merge loop absorbs instead);
`c` is the length of what lies below `ms`. -/
theorem covFold_eq_merge (l : List (Iv α)) (hs : SortedStart l) (hne : ∀ iv ∈ l, iv.start < iv.stop) :
    ∀ (top : Iv α) (rest : List (Iv α)) (ms c : Nat), top.start ≤ ms → ms ≤ top.stop → (∀ iv ∈ l, ms ≤ iv.start) →
      c + top.start = (rest.map Iv.len).sum + ms →
      covTotal (l.foldl covStep ((ms, top.stop), c)) = ((l.foldl mergeStep (top :: rest)).map Iv.len).sum := by
  induction l with
  | nil =>
    intro top rest ms c h1 h2 _ hc
    simp only [List.foldl_nil, covTotal, List.map_cons, List.sum_cons, Iv.len]
    omega
  | cons iv t ih =>
    intro top rest ms c h1 h2 hms hc
    have hp := List.pairwise_cons.mp hs
    have hiv := hne iv List.mem_cons_self
    have hmsiv := hms iv List.mem_cons_self
    have hms' := fun x hx => hms x (List.mem_cons_of_mem _ hx)
    have ih' := ih hp.2 (fun x hx => hne x (List.mem_cons_of_mem _ hx))
    rw [List.foldl_cons, List.foldl_cons, covStep_eq ms _ c iv hmsiv hiv, C18h.mergeStep_cons]
    by_cases hlt : iv.start < top.stop
    · -- overlap: both loops extend the current interval
      rw [if_pos hlt, if_neg (Nat.lt_asymm hlt)]
      by_cases hext : top.stop < iv.stop
      · rw [if_pos hext, Nat.max_eq_right (Nat.le_of_lt hext)]
        exact ih' { top with stop := iv.stop } rest ms c h1 (Nat.le_trans h2 (Nat.le_of_lt hext)) hms' hc
      · rw [if_neg hext, Nat.max_eq_left (Nat.le_of_not_lt hext)]
        exact ih' top rest ms c h1 h2 hms' hc
    · rw [if_neg hlt]
      by_cases hgap : top.stop < iv.start
      · rw [if_pos hgap]
        exact ih' iv (top :: rest) iv.start _ (Nat.le_refl _) (Nat.le_of_lt hiv) hp.1
          (by simp only [List.map_cons, List.sum_cons, Iv.len]; omega)
      · -- adjacent: the sweep restarts where the merge loop extends the top
        have heq : top.stop = iv.start := Nat.le_antisymm (Nat.le_of_not_lt hlt) (Nat.le_of_not_lt hgap)
        rw [if_neg hgap, if_pos (heq ▸ hiv)]
        exact ih' { top with stop := iv.stop } rest iv.start _ (Nat.le_trans h1 hmsiv) (Nat.le_of_lt hiv) hp.1
          (by show c + (top.stop - ms) + top.start = _; omega)

/-- `calculate_coverage` returns the total length of what `merge_overlaps` would leave -/
theorem calcCov_eq_merge (l : List (Iv α)) (hs : SortedStart l) (hne : ∀ iv ∈ l, iv.start < iv.stop) :
    covTotal (l.foldl covStep ((0, 0), 0)) = ((mergeList l).map Iv.len).sum := by
  unfold mergeList
  rw [List.map_reverse, List.sum_reverse]
  cases l with
  | nil => rfl
  | cons a t =>
    have hp := List.pairwise_cons.mp hs
    have ha := hne a List.mem_cons_self
    rw [List.foldl_cons, List.foldl_cons, covStep_eq 0 0 0 a (Nat.zero_le _) ha, if_neg (Nat.not_lt_zero _)]
    exact covFold_eq_merge t hp.2 (fun x hx => hne x (List.mem_cons_of_mem _ hx)) a [] a.start 0 (Nat.le_refl _)
      (Nat.le_of_lt ha) hp.1 rfl

theorem calcCov_spec (s : Lapper α) (hs : SortedStart s.intervals.toList) (hne : ∀ iv ∈ s.intervals.toList, iv.start < iv.stop) :
    s.calcCov = coveredCount s.intervals.toList := by
  rw [calcCov_eq, calcCov_eq_merge _ hs hne, ← coveredCount_separated _ (mergeList_sep hs)]
  exact coveredCount_congr (C18h.mergeList_covered hs)

end BV
