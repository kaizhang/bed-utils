import BedVerif.Lemmas.C03Layout
/-!
C12 helpers: every column parser of the model is `pCol` of a field decoder, so a record format is a
list of columns (`Col`) and its parser a fold over that list (`parseList`, `colsOf`).
-/
namespace BV
variable {F : Type}

/-! ### one column -/
/-- a column parser: the first remaining field, decoded -/
def pCol {β : Type} (miss bad : PErr) (dec : Bytes → Option β) : P β
  | [] => .err miss
  | f :: r => match dec f with | some v => .ok (v, r) | none => .err bad

/-- the decoder of an optional column: `.` for an absent value -/
def decOpt {β : Type} (dec : Bytes → Option β) (f : Bytes) : Option (Option β) :=
  if f = DOT then some none else (dec f).map some

theorem decOpt_of_ne {β : Type} (dec : Bytes → Option β) {f : Bytes} (h : f ≠ DOT) : decOpt dec f = (dec f).map some :=
  if_neg h

theorem decOpt_isSome {β : Type} (dec : Bytes → Option β) (f : Bytes) :
    (decOpt dec f).isSome = (f == DOT || (dec f).isSome) := by
  by_cases h : f = DOT
  · subst h; rfl
  · rw [decOpt_of_ne dec h, Option.isSome_map, beq_false_of_ne h]; rfl

theorem pChrom_eq (cols : List Bytes) : pChrom cols = pCol .missingChrom .missingChrom some cols := by
  cases cols <;> rfl
theorem pStart_eq (cols : List Bytes) :
    pStart cols = pCol .missingStart .invalidStart (parseUnsigned U64MAX) cols := by
  cases cols with
  | nil => rfl
  | cons f r => simp only [pStart, pCol]; cases parseUnsigned U64MAX f <;> rfl
theorem pEnd_eq (cols : List Bytes) : pEnd cols = pCol .missingEnd .invalidEnd (parseUnsigned U64MAX) cols := by
  cases cols with
  | nil => rfl
  | cons f r => simp only [pEnd, pCol]; cases parseUnsigned U64MAX f <;> rfl
theorem pName_eq (cols : List Bytes) :
    pName cols = pCol .missingName .missingName (fun f => some (if f = DOT then none else some f)) cols := by
  cases cols <;> rfl
theorem pScore_eq (cols : List Bytes) : pScore cols = pCol .missingScore .invalidScore (decOpt parseScore) cols := by
  cases cols with
  | nil => rfl
  | cons f r =>
    simp only [pScore, pCol, decOpt]
    split
    · rfl
    · cases parseScore f <;> rfl
theorem pStrand_eq (cols : List Bytes) :
    pStrand cols = pCol .missingStrand .invalidStrand (decOpt parseStrand) cols := by
  cases cols with
  | nil => rfl
  | cons f r =>
    simp only [pStrand, pCol, decOpt]
    split
    · rfl
    · cases parseStrand f <;> rfl
theorem pFloat_eq (fc : FloatCodec F) (cols : List Bytes) :
    pFloat fc cols = pCol .missingValue .invalidValue fc.parse cols := by
  cases cols <;> rfl
theorem pPValue_eq (fc : FloatCodec F) (cols : List Bytes) :
    pPValue fc cols = pCol .missingScore .invalidValue
      (fun f => (fc.parse f).map fun x => if fc.ltZero x then none else some x) cols := by
  cases cols with
  | nil => rfl
  | cons f r => simp only [pPValue, pCol]; cases fc.parse f <;> rfl
theorem pPeak_eq (cols : List Bytes) : pPeak cols = pCol .missingValue .invalidValue (parseUnsigned U64MAX) cols := by
  cases cols with
  | nil => rfl
  | cons f r => simp only [pPeak, pCol]; cases parseUnsigned U64MAX f <;> rfl
theorem pI64_eq (cols : List Bytes) : pI64 cols = pCol .missingValue .invalidValue parseI64 cols := by
  cases cols with
  | nil => rfl
  | cons f r => simp only [pI64, pCol]; cases parseI64 f <;> rfl

/-! ### a format as a list of columns -/
/-- one column of a record format: the decoder of its field, where the value goes, and the errors
for a missing and for a malformed field -/
structure Col (F : Type) where
  {β : Type}
  dec : Bytes → Option β
  set : β → TRec F → TRec F
  miss : PErr
  bad : PErr

/-- the parser of the format with columns `cs`, filling in `x` -/
def parseList : List (Col F) → TRec F → List Bytes → Outcome PErr (TRec F)
  | [], x, _ => .ok x
  | c :: cs, x, cols => bindP (pCol c.miss c.bad c.dec cols) fun v r => parseList cs (c.set v x) r

theorem parseList_cons_cons (c : Col F) (cs : List (Col F)) (x : TRec F) (f : Bytes) (r : List Bytes) :
    parseList (c :: cs) x (f :: r) =
      match c.dec f with | some v => parseList cs (c.set v x) r | none => .err c.bad := by
  simp only [parseList, pCol]
  cases c.dec f <;> rfl

/-- fields beyond those the format reads never change the result of an accepted line -/
theorem parseList_append (cs : List (Col F)) (x y : TRec F) (cols more : List Bytes)
    (h : parseList cs x cols = .ok y) : parseList cs x (cols ++ more) = .ok y := by
  induction cs generalizing x cols with
  | nil => exact h
  | cons c cs ih =>
    cases cols with
    | nil => cases h
    | cons f r =>
      rw [List.cons_append, parseList_cons_cons]
      rw [parseList_cons_cons] at h
      cases hd : c.dec f with
      | none => rw [hd] at h; cases h
      | some v => rw [hd] at h; exact ih _ _ h

/-- BED column `k` (0 chrom, 1 start, 2 end, 3 name, 4 score, 5 strand) -/
def bedCol : Nat → Col F
  | 0 => ⟨some, fun v x => { x with chrom := v }, .missingChrom, .missingChrom⟩
  | 1 => ⟨parseUnsigned U64MAX, fun v x => { x with start := v }, .missingStart, .invalidStart⟩
  | 2 => ⟨parseUnsigned U64MAX, fun v x => { x with stop := v }, .missingEnd, .invalidEnd⟩
  | 3 => ⟨fun f => some (if f = DOT then none else some f), fun v x => { x with name := v }, .missingName, .missingName⟩
  | 4 => ⟨decOpt parseScore, fun v x => { x with score := v }, .missingScore, .invalidScore⟩
  | _ => ⟨decOpt parseStrand, fun v x => { x with strand := v }, .missingStrand, .invalidStrand⟩

def floatCol (fc : FloatCodec F) : Col F :=
  ⟨fc.parse, fun v x => { x with signal := some v }, .missingValue, .invalidValue⟩
/-- a p- or q-value column, `set` saying which -/
def pvalCol (fc : FloatCodec F) (set : Option F → TRec F → TRec F) : Col F :=
  ⟨fun f => (fc.parse f).map fun x => if fc.ltZero x then none else some x, set, .missingScore, .invalidValue⟩
def peakCol : Col F := ⟨parseUnsigned U64MAX, fun v x => { x with peak := some v }, .missingValue, .invalidValue⟩
def ivalCol : Col F := ⟨parseI64, fun v x => { x with ival := some v }, .missingValue, .invalidValue⟩

/-- the format-specific columns -/
def extraCols (fc : FloatCodec F) : Ty → List (Col F)
  | .narrowPeak => [floatCol fc, pvalCol fc fun v x => { x with p := v }, pvalCol fc fun v x => { x with q := v }, peakCol]
  | .broadPeak => [floatCol fc, pvalCol fc fun v x => { x with p := v }, pvalCol fc fun v x => { x with q := v }]
  | .bgInt => [ivalCol]
  | .bgFloat => [floatCol fc]
  | _ => []

/-- the columns of a format: its BED columns, then its own -/
def colsOf (fc : FloatCodec F) (ty : Ty) : List (Col F) :=
  (List.range (bedCols ty)).map bedCol ++ extraCols fc ty

theorem parseT_eq_parseList (fc : FloatCodec F) (ty : Ty) (s : Bytes) :
    parseT fc ty s = parseList (colsOf fc ty) { chrom := [], start := 0, stop := 0 } (columnsOfLine ty s) := by
  cases ty with
  | bed n =>
    obtain ⟨h3, h4, h5, hb⟩ | ⟨h3, h4, h5, hb⟩ | ⟨h3, h4, h5, hb⟩ | ⟨h3, h4, h5, hb⟩ := C03.bed_shape n
    all_goals
      simp only [parseT, colsOf, hb, h3, h4, h5, if_true, if_false, pChrom_eq, pStart_eq, pEnd_eq, pName_eq,
        pScore_eq, pStrand_eq]
      rfl
  | _ =>
    simp only [parseT, pChrom_eq, pStart_eq, pEnd_eq, pName_eq, pScore_eq, pStrand_eq, pFloat_eq, pPValue_eq,
      pPeak_eq, pI64_eq]
    rfl

end BV
