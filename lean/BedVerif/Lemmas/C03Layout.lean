import BedVerif.Lemmas.C03Split
/-! C03 helpers: `Display` writes the columns from left to right, TAB between them -/
namespace BV
namespace C03
variable {F : Type}

/-- the four shapes of `BED<n>`: which of name, score and strand it carries -/
theorem bed_shape (n : Nat) :
    (¬ n > 3 ∧ ¬ n > 4 ∧ ¬ n > 5 ∧ bedCols (.bed n) = 3) ∨ (n > 3 ∧ ¬ n > 4 ∧ ¬ n > 5 ∧ bedCols (.bed n) = 4) ∨
    (n > 3 ∧ n > 4 ∧ ¬ n > 5 ∧ bedCols (.bed n) = 5) ∨ (n > 3 ∧ n > 4 ∧ n > 5 ∧ bedCols (.bed n) = 6) := by
  obtain h | rfl | rfl | h : n ≤ 3 ∨ n = 4 ∨ n = 5 ∨ 6 ≤ n := by omega
  · exact .inl ⟨by omega, by omega, by omega, Nat.max_eq_left (Nat.le_trans (Nat.min_le_left n 6) h)⟩
  · exact .inr (.inl (by decide))
  · exact .inr (.inr (.inl (by decide)))
  · exact .inr (.inr (.inr ⟨by omega, by omega, by omega, by rw [bedCols, Nat.min_eq_right h]; rfl⟩))

theorem layout (fc : FloatCodec F) (ty : Ty) (x : TRec F) :
    showT fc ty x = intercalate [TAB] (columnsT fc ty x) := by
  -- with `intercalate_cons` both sides are the same left-nested append, up to how an absent score or strand is written
  cases ty with
  | gr => simp only [showT, columnsT, intercalate_cons, List.foldl_cons, List.foldl_nil]
  | bgInt | bgFloat =>
    simp only [showT, columnsT, List.cons_append, List.nil_append, intercalate_cons, List.foldl_cons, List.foldl_nil]
  | narrowPeak | broadPeak =>
    simp only [showT, columnsT, List.cons_append, List.nil_append, intercalate_cons, List.foldl_cons, List.foldl_nil]
    cases x.score <;> cases x.strand <;> rfl
  | bed n =>
    obtain ⟨h3, h4, h5, -⟩ | ⟨h3, h4, h5, -⟩ | ⟨h3, h4, h5, -⟩ | ⟨h3, h4, h5, -⟩ := bed_shape n
    all_goals simp only [showT, columnsT, h3, h4, h5, if_true, if_false, List.append_nil, List.cons_append,
      List.nil_append, intercalate_cons, List.foldl_cons, List.foldl_nil, List.append_assoc]
    -- that closes `BED3`; the others are left with `optCol`
    · rfl
    · cases x.score <;> rfl
    · cases x.score <;> cases x.strand <;> rfl

end C03
end BV
