/-!
The list idioms of the Boolean checkers (`zip`, `zip` with `drop 1`, `isEmpty ||`, `headD`, `getLastD`)
in the index form the specifications are stated in. The `↔` lemmas are meant for `simp only`, after
`List.all_eq_true` has turned an `all` into a bounded `∀`.
-/
namespace BV

theorem forall_mem_zip {α β} {l : List α} {m : List β} {P : α × β → Prop} :
    (∀ x ∈ l.zip m, P x) ↔ ∀ i (h₁ : i < l.length) (h₂ : i < m.length), P (l[i], m[i]) := by
  constructor
  · intro h i h₁ h₂
    have hi : i < (l.zip m).length := by rw [List.length_zip]; omega
    exact List.getElem_zip ▸ h _ (List.getElem_mem hi)
  · intro h x hx
    obtain ⟨i, hi, rfl⟩ := List.getElem_of_mem hx
    rw [List.length_zip] at hi
    exact List.getElem_zip ▸ h i (by omega) (by omega)

theorem forall_mem_zip_drop_one {α} {l : List α} {P : α × α → Prop} :
    (∀ x ∈ l.zip (l.drop 1), P x) ↔ ∀ i (h : i + 1 < l.length), P (l[i]'(Nat.lt_of_succ_lt h), l[i + 1]) := by
  rw [forall_mem_zip]
  simp only [List.length_drop, List.getElem_drop, Nat.add_comm 1]
  exact ⟨fun h i hi => h i (by omega) (by omega), fun h i _ hi => h i (by omega)⟩

theorem isEmpty_or_iff {α} {l : List α} {b : Bool} :
    (l.isEmpty || b) = true ↔ (0 < l.length → b = true) := by
  cases l <;> simp

theorem headD_eq_getElem {α} (l : List α) (d : α) (h : 0 < l.length) : l.headD d = l[0] := by
  cases l with
  | nil => cases h
  | cons x xs => rfl

theorem getLastD_eq_getElem {α} (l : List α) (d : α) (h : 0 < l.length) : l.getLastD d = l[l.length - 1]'(Nat.sub_lt h Nat.one_pos) := by
  rw [List.getLastD_eq_getLast?, List.getLast?_eq_some_getLast (List.ne_nil_of_length_pos h), Option.getD_some,
    List.getLast_eq_getElem]

theorem pairwise_of_adjacent {α} {R : α → α → Prop} (trans : ∀ a b c, R a b → R b c → R a c) :
    ∀ {l : List α}, (∀ i (h : i + 1 < l.length), R (l[i]'(Nat.lt_of_succ_lt h)) l[i + 1]) → l.Pairwise R
  | [], _ => .nil
  | [_], _ => List.pairwise_singleton _ _
  | a :: b :: t, h => by
    have ih : (b :: t).Pairwise R := pairwise_of_adjacent trans fun i hi => h (i + 1) (Nat.succ_lt_succ hi)
    refine List.pairwise_cons.mpr ⟨fun z hz => ?_, ih⟩
    have hab : R a b := h 0 (Nat.succ_lt_succ (Nat.succ_pos _))
    rcases List.mem_cons.mp hz with rfl | hz
    · exact hab
    · exact trans a b z hab ((List.pairwise_cons.mp ih).1 z hz)

theorem adjacent_reverse {α} {R : α → α → Prop} {l : List α}
    (h : ∀ i (hi : i + 1 < l.length), R l[i + 1] (l[i]'(Nat.lt_of_succ_lt hi))) :
    ∀ i (hi : i + 1 < l.reverse.length), R (l.reverse[i]'(Nat.lt_of_succ_lt hi)) l.reverse[i + 1] := by
  intro i hi
  rw [List.length_reverse] at hi
  have := h (l.length - 1 - (i + 1)) (by omega)
  simp only [show l.length - 1 - (i + 1) + 1 = l.length - 1 - i by omega] at this
  rwa [List.getElem_reverse, List.getElem_reverse]

end BV
