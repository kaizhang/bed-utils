import BedVerif.Lemmas.BSearch
import BedVerif.Lemmas.LapperFind
/-! The structural invariant of `Lapper`: it holds of `new` and is kept by `insert`, `set_cov`
and `merge_overlaps`, whatever the intervals, hence in every state reachable by an operation
history. `start ≤ stop` of all stored intervals is kept as well. -/
namespace BV
variable {α : Type}

theorem Iv.cmp_lt_iff (a b : Iv α) : (Iv.cmp a b == .lt) = true ↔ a.start < b.start ∨ (a.start = b.start ∧ a.stop < b.stop) := by
  rw [beq_iff_eq, Iv.cmp, Ordering.then_eq_lt, Nat.compare_eq_lt, Nat.compare_eq_eq, Nat.compare_eq_lt]

theorem Iv.le_iff (a b : Iv α) : a.le b = true ↔ a.start < b.start ∨ (a.start = b.start ∧ a.stop ≤ b.stop) := by
  rw [Iv.le, bne_iff_ne, Ne, Iv.cmp, Ordering.then_eq_gt, Nat.compare_eq_gt, Nat.compare_eq_eq, Nat.compare_eq_gt]
  omega

theorem Iv.start_le_of_le {a b : Iv α} (h : a.le b = true) : a.start ≤ b.start :=
  ((Iv.le_iff a b).mp h).elim Nat.le_of_lt fun h => Nat.le_of_eq h.1

theorem Iv.le_of_start_lt {a b : Iv α} (h : a.start < b.start) : a.le b = true := (Iv.le_iff a b).mpr (.inl h)

theorem Iv.le_extend {a b : Iv α} (h : a.le b = true) {e : Nat} (he : b.stop ≤ e) : a.le { b with stop := e } = true := by
  rw [Iv.le_iff] at h ⊢
  exact h.imp id fun h => ⟨h.1, Nat.le_trans h.2 he⟩

theorem Iv.cmp_eq_compareLex :
    (Iv.cmp : Iv α → Iv α → Ordering) = compareLex (compareOn (·.start)) (compareOn (·.stop)) := rfl

/-- so `Ord for Interval` is a lawful comparator (core's `OrientedCmp`, `TransCmp`) -/
instance : Std.TransCmp (Iv.cmp (α := α)) := Iv.cmp_eq_compareLex ▸ inferInstance

theorem Iv.cmp_lt_iff_not_le (a b : Iv α) : (Iv.cmp a b == .lt) = true ↔ ¬ b.le a = true :=
  beq_iff_eq.trans (Std.OrientedCmp.gt_iff_lt.symm.trans (Classical.not_not.symm.trans (not_congr bne_iff_ne.symm)))

theorem ivLe_total : TotalLe (Iv.le (α := α)) := TotalLe.of_transCmp (Iv.cmp (α := α))

structure Inv (s : Lapper α) : Prop where
  sorted : s.intervals.toList.Pairwise (fun a b => a.le b = true)
  starts_sorted : s.starts.toList.Pairwise (· ≤ ·)
  starts_perm : s.starts.toList.Perm (s.intervals.toList.map (·.start))
  stops_sorted : s.stops.toList.Pairwise (· ≤ ·)
  stops_perm : s.stops.toList.Perm (s.intervals.toList.map (·.stop))
  maxLen_ge : ∀ iv ∈ s.intervals.toList, iv.len ≤ s.maxLen

def Weak (s : Lapper α) : Prop := ∀ iv ∈ s.intervals.toList, iv.start ≤ iv.stop

theorem Inv.sortedStart {s : Lapper α} (h : Inv s) : SortedStart s.intervals.toList :=
  h.sorted.imp Iv.start_le_of_le

theorem Inv.find_eq_filter {s : Lapper α} (h : Inv s) (qs qe : Nat) :
    s.find qs qe = s.intervals.toList.filter (·.ov qs qe) :=
  BV.find_eq_filter s h.sortedStart h.maxLen_ge qs qe

/-- one step of the running maximum, as `Lapper::new` and `insert` write it -/
theorem le_maxStep (x m : Nat) : m ≤ (if x > m then x else m) ∧ x ≤ (if x > m then x else m) := by
  split
  · exact ⟨Nat.le_of_lt ‹_›, Nat.le_refl _⟩
  · exact ⟨Nat.le_refl _, Nat.le_of_not_lt ‹_›⟩

theorem maxLenOf_ge (l : List (Iv α)) : ∀ iv ∈ l, iv.len ≤ maxLenOf l :=
  (foldl_running_max (f := Iv.len) (fun m iv => le_maxStep iv.len m) l 0).2

theorem inv_of_sorted_list (ivs : List (Iv α)) (hs : ivs.Pairwise (fun a b => a.le b = true)) (cov : Option Nat) (mg : Bool) :
    Inv { intervals := ivs.toArray, starts := (sortNat (ivs.map (·.start))).toArray,
          stops := (sortNat (ivs.map (·.stop))).toArray, maxLen := maxLenOf ivs, cov := cov, merged := mg } :=
  ⟨hs, sortNat_sorted _, sortNat_perm _, sortNat_sorted _, sortNat_perm _, maxLenOf_ge ivs⟩

theorem inv_new (l : List (Iv α)) : Inv (Lapper.new l) :=
  inv_of_sorted_list _ (isort_sorted ivLe_total l) none false

theorem new_intervals_perm (l : List (Iv α)) : (Lapper.new l).intervals.toList.Perm l := isort_perm Iv.le l

theorem insert_intervals_perm (s : Lapper α) (e : Iv α) : (s.insert e).intervals.toList.Perm (e :: s.intervals.toList) :=
  insertAt_perm _ _ _

theorem natcmp_lt_iff_not_le (a b : Nat) : (compare a b == .lt) = true ↔ ¬ b ≤ a :=
  (natcmp_lt_iff a b).trans Nat.not_le.symm

theorem inv_insert (s : Lapper α) (h : Inv s) (e : Iv α) : Inv (s.insert e) where
  sorted := insertAt_bsearchSeq_sorted ivLe_total.total ivLe_total.trans Iv.cmp_lt_iff_not_le h.sorted e
  starts_sorted :=
    insertAt_bsearchSeq_sorted Nat.le_total (fun _ _ _ => Nat.le_trans) natcmp_lt_iff_not_le h.starts_sorted _
  starts_perm := (insertAt_perm _ _ _).trans ((h.starts_perm.cons _).trans ((insert_intervals_perm s e).map _).symm)
  stops_sorted :=
    insertAt_bsearchSeq_sorted Nat.le_total (fun _ _ _ => Nat.le_trans) natcmp_lt_iff_not_le h.stops_sorted _
  stops_perm := (insertAt_perm _ _ _).trans ((h.stops_perm.cons _).trans ((insert_intervals_perm s e).map _).symm)
  maxLen_ge := by
    intro iv hiv
    have hm := le_maxStep e.len s.maxLen
    rcases List.mem_cons.mp ((insert_intervals_perm s e).mem_iff.mp hiv) with rfl | hiv
    · exact hm.2
    · exact Nat.le_trans (h.maxLen_ge iv hiv) hm.1

theorem inv_setCov (s : Lapper α) (h : Inv s) : Inv s.setCov := ⟨h.1, h.2, h.3, h.4, h.5, h.6⟩

theorem weak_insert (s : Lapper α) (hw : Weak s) (e : Iv α) (he : e.start ≤ e.stop) : Weak (s.insert e) :=
  fun iv hiv => (List.mem_cons.mp ((insert_intervals_perm s e).mem_iff.mp hiv)).elim (· ▸ he) (hw iv)

/-- the merged list, as a function on lists -/
def mergeList (l : List (Iv α)) : List (Iv α) := (l.foldl mergeStep []).reverse

theorem mergeOverlaps_intervals (s : Lapper α) : s.mergeOverlaps.intervals.toList = mergeList s.intervals.toList := rfl

theorem mergeStep_cases {motive : List (Iv α) → Prop} (top iv : Iv α) (t : List (Iv α))
    (push : top.stop < iv.start → motive (iv :: top :: t))
    (extend : ¬ top.stop < iv.start → top.stop < iv.stop → motive ({ top with stop := iv.stop } :: t))
    (keep : ¬ top.stop < iv.start → ¬ top.stop < iv.stop → motive (top :: t)) :
    motive (mergeStep (top :: t) iv) := by
  rw [mergeStep]
  split
  · exact push ‹_›
  · split
    · exact extend ‹_› ‹_›
    · exact keep ‹_› ‹_›

/-- invariant of the stack during the merge loop (`acc` head = stack top), as far as it needs the
input sorted by start only -/
structure MSep (acc rest : List (Iv α)) : Prop where
  sep : acc.Pairwise (fun a b => b.stop < a.start)
  top_le : ∀ top ∈ acc.head?, ∀ iv ∈ rest, top.start ≤ iv.start

theorem mergeStep_sep {acc : List (Iv α)} {iv : Iv α} {rest : List (Iv α)}
    (h : MSep acc (iv :: rest)) (hs : ∀ x ∈ rest, iv.start ≤ x.start) : MSep (mergeStep acc iv) rest := by
  cases acc with
  | nil => exact ⟨List.pairwise_singleton _ _, fun top ht => by cases Option.mem_some.mp ht; exact hs⟩
  | cons top t =>
    have ⟨hst, hstt⟩ := List.pairwise_cons.mp h.sep
    have h1 := h.top_le top rfl iv List.mem_cons_self
    have hrest : ∀ top' ∈ some top, ∀ x ∈ rest, top'.start ≤ x.start :=
      fun top' ht' x hx => h.top_le top' ht' x (List.mem_cons_of_mem _ hx)
    refine mergeStep_cases (motive := fun r => MSep r rest) top iv t (fun hlt => ?_) (fun _ _ => ?_) (fun _ _ => ⟨h.sep, hrest⟩)
    · refine ⟨List.pairwise_cons.mpr ⟨fun b hb => ?_, h.sep⟩, fun top' ht' => by cases Option.mem_some.mp ht'; exact hs⟩
      rcases List.mem_cons.mp hb with rfl | hb
      · exact hlt
      · exact Nat.lt_of_lt_of_le (hst b hb) h1
    · exact ⟨List.pairwise_cons.mpr ⟨hst, hstt⟩, fun top' ht' => by cases Option.mem_some.mp ht'; exact hrest top rfl⟩

/-- The rest of the invariant, for an input in the order of `Ord for Interval`: the stack is
descending in that order. What makes it go: a top with `stop < start` is never extended, so it is
still the interval that was stored and precedes what is still to be read; any other top does so
once `top.stop < iv.start`. -/
structure MInv (acc rest : List (Iv α)) : Prop extends MSep acc rest where
  sorted : acc.Pairwise (fun a b => b.le a = true)
  top_inv : ∀ top ∈ acc.head?, top.stop < top.start → ∀ iv ∈ rest, top.le iv = true

theorem mergeStep_inv {acc : List (Iv α)} {iv : Iv α} {rest : List (Iv α)}
    (h : MInv acc (iv :: rest)) (hs : ∀ x ∈ rest, iv.le x = true) : MInv (mergeStep acc iv) rest := by
  have hsep := mergeStep_sep h.toMSep fun x hx => Iv.start_le_of_le (hs x hx)
  cases acc with
  | nil => exact ⟨hsep, List.pairwise_singleton _ _, fun top ht _ => by cases Option.mem_some.mp ht; exact hs⟩
  | cons top t =>
    have ⟨hst, hstt⟩ := List.pairwise_cons.mp h.sorted
    have h1 := h.top_le top rfl iv List.mem_cons_self
    refine mergeStep_cases (motive := fun r => MSep r rest → MInv r rest) top iv t
      (fun hlt hsep => ?_) (fun hlt hext hsep => ?_) (fun _ _ hsep => ?_) hsep
    · have hti : top.le iv = true := (Nat.lt_or_eq_of_le h1).elim Iv.le_of_start_lt
        fun e => h.top_inv top rfl (e ▸ hlt) iv List.mem_cons_self
      refine ⟨hsep, List.pairwise_cons.mpr ⟨fun b hb => ?_, h.sorted⟩,
        fun top' ht' _ => by cases Option.mem_some.mp ht'; exact hs⟩
      rcases List.mem_cons.mp hb with rfl | hb
      · exact hti
      · exact ivLe_total.trans _ _ _ (hst b hb) hti
    · refine ⟨hsep, List.pairwise_cons.mpr ⟨fun b hb => Iv.le_extend (hst b hb) (Nat.le_of_lt hext), hstt⟩, ?_⟩
      intro top' ht' hinv
      cases Option.mem_some.mp ht'
      -- the extended top has `start ≤ iv.start ≤ top.stop < iv.stop`
      exact absurd (Nat.lt_of_le_of_lt (Nat.le_trans h1 (Nat.le_of_not_lt hlt)) (Nat.lt_trans hext hinv)) (Nat.lt_irrefl _)
    · exact ⟨hsep, h.sorted, fun top' ht' hinv x hx => h.top_inv top' ht' hinv x (List.mem_cons_of_mem _ hx)⟩

theorem mergeFold_sep {l acc : List (Iv α)} (h : MSep acc l) (hs : SortedStart l) :
    MSep (l.foldl mergeStep acc) [] := by
  induction l generalizing acc with
  | nil => exact h
  | cons a t ih =>
    have hp := List.pairwise_cons.mp hs
    exact ih (mergeStep_sep h hp.1) hp.2

theorem mergeFold_inv {l acc : List (Iv α)} (h : MInv acc l) (hs : l.Pairwise (fun a b => a.le b = true)) :
    MInv (l.foldl mergeStep acc) [] := by
  induction l generalizing acc with
  | nil => exact h
  | cons a t ih =>
    have hp := List.pairwise_cons.mp hs
    exact ih (mergeStep_inv h hp.1) hp.2

theorem mergeList_sep {l : List (Iv α)} (hs : SortedStart l) :
    (mergeList l).Pairwise (fun a b => a.stop < b.start) :=
  List.pairwise_reverse.mpr (mergeFold_sep ⟨List.Pairwise.nil, fun _ h => nomatch h⟩ hs).sep

/-- even for intervals with `stop < start` -/
theorem mergeList_sorted {l : List (Iv α)} (hs : l.Pairwise (fun a b => a.le b = true)) :
    (mergeList l).Pairwise (fun a b => a.le b = true) :=
  List.pairwise_reverse.mpr
    (mergeFold_inv ⟨⟨List.Pairwise.nil, fun _ h => nomatch h⟩, List.Pairwise.nil, fun _ h => nomatch h⟩ hs).sorted

theorem inv_merge (s : Lapper α) (h : Inv s) : Inv s.mergeOverlaps :=
  inv_of_sorted_list _ (mergeList_sorted h.sorted) _ _

theorem mergeList_forall {Q : Iv α → Prop} (hQ : ∀ top : Iv α, ∀ e, Q top → top.stop < e → Q { top with stop := e })
    {l : List (Iv α)} (hl : ∀ iv ∈ l, Q iv) : ∀ x ∈ mergeList l, Q x := by
  have step : ∀ acc iv, (∀ x ∈ acc, Q x) → Q iv → ∀ x ∈ mergeStep acc iv, Q x := by
    intro acc iv hacc hiv
    cases acc with
    | nil => exact List.forall_mem_singleton.mpr hiv
    | cons top t =>
      have ⟨ht, htt⟩ := List.forall_mem_cons.mp hacc
      exact mergeStep_cases (motive := fun r => ∀ x ∈ r, Q x) top iv t (fun _ => List.forall_mem_cons.mpr ⟨hiv, hacc⟩)
        (fun _ hext => List.forall_mem_cons.mpr ⟨hQ top _ ht hext, htt⟩) (fun _ _ => hacc)
  have fold : ∀ acc, (∀ x ∈ acc, Q x) → ∀ x ∈ l.foldl mergeStep acc, Q x := by
    induction l with
    | nil => exact fun _ h => h
    | cons a t ih =>
      have ⟨ha, ht⟩ := List.forall_mem_cons.mp hl
      exact fun acc hacc => ih ht _ (step acc a hacc ha)
  exact fun x hx => fold [] (fun _ h => nomatch h) x (List.mem_reverse.mp hx)

theorem weak_merge (s : Lapper α) (hw : Weak s) : Weak s.mergeOverlaps :=
  mergeList_forall (Q := fun iv => iv.start ≤ iv.stop) (fun _ _ h he => Nat.le_trans h (Nat.le_of_lt he)) hw

def insertedOf (ops : List (Op α)) : List (Iv α) := ops.filterMap (fun | .insert iv => some iv | _ => none)
/-- every interval that enters the structure during the history -/
def recordsOf (l : List (Iv α)) (ops : List (Op α)) : List (Iv α) := l ++ insertedOf ops
def WeakIvs (l : List (Iv α)) (ops : List (Op α)) : Prop := ∀ iv ∈ recordsOf l ops, iv.start ≤ iv.stop
def NoMerge (ops : List (Op α)) : Prop := Op.merge ∉ ops
/-- every interval entering the structure during the history is non-empty (`start < stop`) -/
def NonEmptyIvs (l : List (Iv α)) (ops : List (Op α)) : Prop := ∀ iv ∈ recordsOf l ops, iv.start < iv.stop

theorem NonEmptyIvs.weak {l : List (Iv α)} {ops : List (Op α)} (h : NonEmptyIvs l ops) : WeakIvs l ops :=
  fun iv hiv => Nat.le_of_lt (h iv hiv)

/-- Induction over an operation history. `motive s R`: the state `s` has been reached, and `R` lists
what was supplied on the way. Each case may use that its operation occurs in the history. -/
theorem Lapper.run_induction {motive : Lapper α → List (Iv α) → Prop} (l : List (Iv α)) (ops : List (Op α))
    (new : motive (Lapper.new l) l)
    (insert : ∀ s R iv, iv ∈ insertedOf ops → motive s R → motive (s.insert iv) (R ++ [iv]))
    (merge : ∀ s R, Op.merge ∈ ops → motive s R → motive s.mergeOverlaps R)
    (setCov : ∀ s R, motive s R → motive s.setCov R) :
    motive (Lapper.run l ops) (recordsOf l ops) := by
  suffices ∀ t s R, (∀ o ∈ t, o ∈ ops) → motive s R → motive (t.foldl Lapper.step s) (R ++ insertedOf t) from
    this ops _ l (fun _ h => h) new
  intro t
  induction t with
  | nil => intro s R _ h; rwa [insertedOf, List.filterMap_nil, List.append_nil]
  | cons o t ih =>
    intro s R hot h
    have ⟨ho, ht⟩ := List.forall_mem_cons.mp hot
    clear hot
    cases o with
    | insert iv =>
      have := ih _ _ ht (insert s R iv (List.mem_filterMap.mpr ⟨_, ho, rfl⟩) h)
      rwa [List.append_assoc] at this
    | merge => exact ih _ _ ht (merge s R ho h)
    | setCov => exact ih _ _ ht (setCov s R h)

theorem inv_run (l : List (Iv α)) (ops : List (Op α)) : Inv (Lapper.run l ops) :=
  Lapper.run_induction (motive := fun s _ => Inv s) l ops (inv_new l) (fun s _ iv _ h => inv_insert s h iv)
    (fun s _ _ h => inv_merge s h) (fun s _ h => inv_setCov s h)

theorem find_run (l : List (Iv α)) (ops : List (Op α)) (qs qe : Nat) :
    (Lapper.run l ops).find qs qe = (Lapper.run l ops).intervals.toList.filter (·.ov qs qe) :=
  (inv_run l ops).find_eq_filter qs qe

theorem weak_run (l : List (Iv α)) (ops : List (Op α)) (h : WeakIvs l ops) : Weak (Lapper.run l ops) :=
  Lapper.run_induction (motive := fun s _ => Weak s) l ops
    (fun iv hiv => h iv (List.mem_append_left _ ((new_intervals_perm l).mem_iff.mp hiv)))
    (fun s _ iv hiv hw => weak_insert s hw iv (h iv (List.mem_append_right _ hiv)))
    (fun s _ _ hw => weak_merge s hw) (fun _ _ hw => hw)

/-- every state reachable by a history over intervals with `start ≤ stop` satisfies the invariant -/
theorem inv_run_weak (l : List (Iv α)) (ops : List (Op α)) (h : WeakIvs l ops) :
    Inv (Lapper.run l ops) ∧ Weak (Lapper.run l ops) := ⟨inv_run l ops, weak_run l ops h⟩

/-- without a merge (arbitrary intervals, even `start > stop`): invariant, and the structure holds
exactly the history's records -/
theorem inv_run_nomerge (l : List (Iv α)) (ops : List (Op α)) (hn : NoMerge ops) :
    Inv (Lapper.run l ops) ∧ (Lapper.run l ops).intervals.toList.Perm (recordsOf l ops) :=
  ⟨inv_run l ops, Lapper.run_induction (motive := fun s R => s.intervals.toList.Perm R) l ops (new_intervals_perm l)
    (fun s _ iv _ h => (insert_intervals_perm s iv).trans ((h.cons iv).trans (List.perm_append_singleton iv _).symm))
    (fun _ _ hm _ => absurd hm hn) (fun _ _ h => h)⟩

end BV
