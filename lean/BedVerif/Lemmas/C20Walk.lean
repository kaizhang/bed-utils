import BedVerif.Lemmas.CoverVocab
import BedVerif.Lemmas.LapperInv
import BedVerif.Lemmas.LapperSeek
/-! C20, part 1: the probes through the carried cursor, the inner `walk` loop, and the run emitted by one `next()`. -/
namespace BV
variable {α : Type}

/-- what the depth iterator needs from the index -/
structure SOK (s : Lapper α) : Prop where
  sorted : SortedStart s.intervals.toList
  maxLen_ge : ∀ iv ∈ s.intervals.toList, iv.len ≤ s.maxLen
  /-- all coordinates fit in u64 (needed by the saturating probe of the inner loop) -/
  fits : ∀ iv ∈ s.intervals.toList, iv.stop ≤ U64MAX

/-- the cursor `c` is usable for every query position `≥ p` -/
def Good (s : Lapper α) (c p : Nat) : Prop := Below s.intervals c (p - s.maxLen)

theorem Good.mono {s : Lapper α} {c p p' : Nat} (h : Good s c p) (hp : p ≤ p') : Good s c p' :=
  Below.mono h (Nat.sub_le_sub_right hp _)

theorem ov_unit_eq_covers (iv : Iv α) (p : Nat) : iv.ov p (p+1) = iv.covers p := by
  unfold Iv.ov Iv.covers
  rw [Bool.eq_iff_iff]
  simp only [Bool.and_eq_true, decide_eq_true_eq]
  omega

/-- the saturating unit query `[p, p.saturating_add(1))` hits exactly the intervals covering `p`,
as long as the interval ends within u64 (at `p ≥ u64::MAX` neither side holds) -/
theorem ov_sat_eq_covers (iv : Iv α) (p : Nat) (h : iv.stop ≤ U64MAX) : iv.ov p (satAdd p 1) = iv.covers p := by
  unfold Iv.ov Iv.covers satAdd
  rw [Bool.eq_iff_iff]
  simp only [Bool.and_eq_true, decide_eq_true_eq]
  omega

theorem seek_depth {s : Lapper α} (hs : SOK s) (p qe c : Nat)
    (hq : ∀ iv ∈ s.intervals.toList, iv.ov p qe = iv.covers p) (h : Good s c p) :
    ∃ c', ((s.seek p qe c).1.length, (s.seek p qe c).2) = (depthOf s.intervals.toList p, c') ∧ Good s c' p := by
  obtain ⟨h1, h2⟩ := seek_step s hs.sorted hs.maxLen_ge p qe c (p - s.maxLen) h (Nat.le_refl _)
  refine ⟨_, ?_, h2⟩
  rw [h1, depthOf, List.countP_eq_length_filter, List.filter_congr hq]

theorem depthAt_spec {s : Lapper α} (hs : SOK s) (p c : Nat) (h : Good s c p) :
    ∃ c', depthAt s p c = (depthOf s.intervals.toList p, c') ∧ Good s c' p :=
  seek_depth hs p (p+1) c (fun iv _ => ov_unit_eq_covers iv p) h

theorem depthAtSat_spec {s : Lapper α} (hs : SOK s) (p c : Nat) (h : Good s c p) :
    ∃ c', depthAtSat s p c = (depthOf s.intervals.toList p, c') ∧ Good s c' p :=
  seek_depth hs p (satAdd p 1) c (fun iv hiv => ov_sat_eq_covers iv p (hs.fits iv hiv)) h

/-- the inner loop, started at `pos ≤ stop` where the depth is `d`: it stops at the first later position where
the depth differs from `d`, or at `stop` -/
theorem walk_spec {s : Lapper α} (hs : SOK s) (d stop : Nat) :
    ∀ fuel pos cur, Good s cur pos → pos ≤ stop → stop - pos ≤ fuel → depthOf s.intervals.toList pos = d →
      ∃ pos' cur', walk s d stop fuel pos cur = (pos', cur') ∧ pos ≤ pos' ∧ pos' ≤ stop ∧ (pos < stop → pos < pos') ∧
        (∀ q, pos ≤ q → q < pos' → depthOf s.intervals.toList q = d) ∧
        (pos' < stop → depthOf s.intervals.toList pos' ≠ d) ∧ Good s cur' pos' := by
  intro fuel
  induction fuel with
  | zero =>
    intro pos cur hg hle hf hd
    exact ⟨pos, cur, rfl, Nat.le_refl _, hle, by omega, by omega, by omega, hg⟩
  | succ n ih =>
    intro pos cur hg hle hf hd
    by_cases hlt : pos < stop
    · obtain ⟨c1, hp, hg1⟩ := depthAtSat_spec hs (pos+1) cur (hg.mono (Nat.le_succ _))
      by_cases heq : depthOf s.intervals.toList (pos+1) = d
      · obtain ⟨pos', cur', hw, i1, i2, _, i4, i5, i6⟩ := ih (pos+1) c1 hg1 hlt (by omega) heq
        refine ⟨pos', cur', ?_, by omega, i2, fun _ => by omega, fun q hq1 hq2 => ?_, i5, i6⟩
        · simp only [walk, hlt, if_true, hp, heq, beq_self_eq_true, hw]
        · by_cases hq : q = pos
          · rw [hq]; exact hd
          · exact i4 q (by omega) hq2
      · refine ⟨pos+1, c1, ?_, by omega, hlt, fun _ => by omega, fun q hq1 hq2 => ?_, fun _ => heq, hg1⟩
        · simp only [walk, hlt, if_true, hp, beq_eq_false_iff_ne.mpr heq]
          rfl
        · rw [show q = pos by omega]; exact hd
    · refine ⟨pos, cur, ?_, Nat.le_refl _, hle, fun h => absurd h hlt, by omega, fun h => absurd h (by omega), hg⟩
      simp only [walk, hlt, if_false]

/-- the emitting part of `next()`, started at `pos` inside the merged interval `iv` (index `cp`) -/
def emit (s : Lapper α) (iv : Iv Bool) (pos cp cursor : Nat) : Option (Iv Nat) × DepthSt :=
  let (d, cur1) := depthAt s pos cursor
  let (pos', cur2) := walk s d iv.stop (iv.stop - pos + 1) pos cur1
  (some ⟨pos, pos', d⟩, { currMergedPos := pos', currPos := cp, cursor := cur2 })

theorem emit_spec {s : Lapper α} (hs : SOK s) (iv : Iv Bool) (pos cp cursor : Nat)
    (hg : Good s cursor pos) (hlt : pos < iv.stop) :
    ∃ pos' cur', emit s iv pos cp cursor = (some ⟨pos, pos', depthOf s.intervals.toList pos⟩, ⟨pos', cp, cur'⟩) ∧
      pos < pos' ∧ pos' ≤ iv.stop ∧
      (∀ q, pos ≤ q → q < pos' → depthOf s.intervals.toList q = depthOf s.intervals.toList pos) ∧
      (pos' < iv.stop → depthOf s.intervals.toList pos' ≠ depthOf s.intervals.toList pos) ∧ Good s cur' pos' := by
  obtain ⟨c1, hd, hg1⟩ := depthAt_spec hs pos cursor hg
  obtain ⟨pos', cur', hw, _, w2, w3, w4, w5, w6⟩ :=
    walk_spec hs _ iv.stop (iv.stop - pos + 1) pos c1 hg1 (Nat.le_of_lt hlt) (by omega) rfl
  exact ⟨pos', cur', by simp only [emit, hd, hw], w3 hlt, w2, w4, w5, w6⟩

end BV
