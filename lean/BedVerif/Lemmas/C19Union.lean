import BedVerif.Lemmas.C18Hist
/-! `union_and_intersect`: both code paths count the positions covered by the pairwise intersection pieces. -/
namespace BV
variable {α β : Type}

/-- the carried-cursor fold over the queries `as` (ascending starts) sees, for every query, exactly the
filter of the stored intervals -/
theorem seekFold {X : Type} (b : Lapper β)
    (hsorted : SortedStart b.intervals.toList)
    (hmax : ∀ iv ∈ b.intervals.toList, iv.len ≤ b.maxLen)
    (comb : X → Iv α → List (Iv β) → X)
    (as : List (Iv α)) (hasc : SortedStart as) :
    ∀ x c prevBound, Below b.intervals c prevBound → (∀ siv ∈ as, prevBound ≤ siv.start - b.maxLen) →
      (as.foldl (fun (acc : X × Nat) siv =>
          (comb acc.1 siv (b.seek siv.start siv.stop acc.2).1, (b.seek siv.start siv.stop acc.2).2)) (x, c)).1
        = as.foldl (fun x siv => comb x siv (b.intervals.toList.filter (·.ov siv.start siv.stop))) x := by
  induction as with
  | nil => intro x c pb _ _; rfl
  | cons q rest ih =>
    intro x c pb hinv hb
    have hp := List.pairwise_cons.mp hasc
    obtain ⟨h1, h2⟩ := seek_step b hsorted hmax q.start q.stop c pb hinv (hb q (List.mem_cons_self))
    simp only [List.foldl_cons]
    rw [h1]
    apply ih hp.2 _ _ (q.start - b.maxLen) h2
    intro q' hq'
    have := hp.1 q' hq'
    omega

/-- the intersection piece of a pair -/
def piece (siv : Iv α) (oiv : Iv β) : Iv Bool := ⟨max siv.start oiv.start, min siv.stop oiv.stop, true⟩

/-- all pieces, as a list-level function -/
def piecesOf (A : List (Iv α)) (B : List (Iv β)) : List (Iv Bool) :=
  A.flatMap (fun siv => (B.filter (·.ov siv.start siv.stop)).map (piece siv))

theorem mem_piecesOf {A : List (Iv α)} {B : List (Iv β)} {x : Iv Bool} :
    x ∈ piecesOf A B ↔ ∃ a ∈ A, ∃ b ∈ B, b.ov a.start a.stop = true ∧ piece a b = x := by
  simp only [piecesOf, List.mem_flatMap, List.mem_map, List.mem_filter, and_assoc]

theorem piece_covers (a : Iv α) (b : Iv β) (p : Nat) :
    (piece a b).covers p = true ↔ a.covers p = true ∧ b.covers p = true := by
  simp only [piece, Iv.covers_iff]
  omega

theorem Iv.ov_iff (b : Iv β) (s e : Nat) : b.ov s e = true ↔ b.start < e ∧ s < b.stop := by
  simp only [Iv.ov, Bool.and_eq_true, decide_eq_true_eq, gt_iff_lt]

theorem ov_of_covers (siv : Iv α) (oiv : Iv β) (p : Nat) (h1 : siv.covers p = true) (h2 : oiv.covers p = true) :
    oiv.ov siv.start siv.stop = true := by
  rw [Iv.covers_iff] at h1 h2
  rw [Iv.ov_iff]
  omega

theorem covered_piecesOf (A : List (Iv α)) (B : List (Iv β)) (p : Nat) :
    covered (piecesOf A B) p ↔ covered A p ∧ covered B p := by
  constructor
  · rintro ⟨x, hx, hc⟩
    obtain ⟨a, ha, b, hb, _, rfl⟩ := mem_piecesOf.mp hx
    rw [piece_covers] at hc
    exact ⟨⟨a, ha, hc.1⟩, ⟨b, hb, hc.2⟩⟩
  · exact fun ⟨⟨a, ha, h1⟩, ⟨b, hb, h2⟩⟩ =>
      ⟨piece a b, mem_piecesOf.mpr ⟨a, ha, b, hb, ov_of_covers a b p h1 h2, rfl⟩, (piece_covers a b p).mpr ⟨h1, h2⟩⟩

/-- `Interval::intersect` is the length of the piece: the number of positions both intervals cover -/
theorem inter_eq_cnt (siv : Iv α) (oiv : Iv β) (N : Nat) (hN : siv.stop ≤ N) :
    siv.inter oiv = cnt (fun p => siv.covers p && oiv.covers p) N :=
  (cnt_covers (piece siv oiv) (Nat.le_trans (Nat.min_le_left ..) hN)).symm.trans
    (congrArg (cnt · N) (funext fun p => Bool.eq_iff_iff.mpr (by rw [Bool.and_eq_true]; exact piece_covers siv oiv p)))

theorem inter_eq_zero_of_not_ov (siv : Iv α) (oiv : Iv β) (h : oiv.ov siv.start siv.stop = false) : siv.inter oiv = 0 := by
  rw [← Bool.not_eq_true, Iv.ov_iff, Decidable.not_and_iff_not_or_not, Nat.not_lt, Nat.not_lt] at h
  show min siv.stop oiv.stop - max siv.start oiv.start = 0
  exact Nat.sub_eq_zero_of_le (h.elim
    (fun h => Nat.le_trans (Nat.min_le_left ..) (Nat.le_trans h (Nat.le_max_right ..)))
    (fun h => Nat.le_trans (Nat.min_le_right ..) (Nat.le_trans h (Nat.le_max_left ..))))

theorem piecesOf_nonempty (A : List (Iv α)) (B : List (Iv β))
    (hA : ∀ iv ∈ A, iv.start < iv.stop) (hB : ∀ iv ∈ B, iv.start < iv.stop) :
    ∀ iv ∈ piecesOf A B, iv.start < iv.stop := by
  intro x hx
  obtain ⟨a, ha, b, hb, hov, rfl⟩ := mem_piecesOf.mp hx
  have := hA a ha
  have := hB b hb
  rw [Iv.ov_iff] at hov
  simp only [piece]
  omega

/-- the pieces of two canonical lists are already canonical: nothing is left for `merge_overlaps` to do, and
adding up their lengths, as the both-merged path does, counts what they cover -/
theorem piecesOf_canonical (A : List (Iv α)) (B : List (Iv β)) (hA : Canonical A) (hB : Canonical B) :
    Canonical (piecesOf A B) := by
  refine ⟨piecesOf_nonempty A B hA.1 hB.1, ?_⟩
  refine List.pairwise_flatMap.mpr ⟨fun a _ => ?_, hA.2.imp fun {a a'} haa x hx y hy => ?_⟩
  · refine List.pairwise_map.mpr ((hB.2.sublist List.filter_sublist).imp fun {b b'} hbb => ?_)
    simp only [piece]
    omega
  · obtain ⟨b, _, rfl⟩ := List.mem_map.mp hx
    obtain ⟨b', _, rfl⟩ := List.mem_map.mp hy
    simp only [piece]
    omega

/-- the pieces cover exactly the intersection -/
theorem coveredCount_piecesOf (A : List (Iv α)) (B : List (Iv β)) : coveredCount (piecesOf A B) = interCount A B :=
  cnt_ext (coveredB_lt (maxStop_ge _)) (coveredB_and_lt A B) fun p =>
    Bool.eq_iff_iff.mpr (by
      rw [Bool.and_eq_true, coveredB_iff_covered, coveredB_iff_covered, coveredB_iff_covered]
      exact covered_piecesOf A B p)

theorem foldl_append_flatMap {γ δ : Type} (f : γ → List δ) (l : List γ) (x : List δ) :
    l.foldl (fun x a => x ++ f a) x = x ++ l.flatMap f := by
  induction l generalizing x with
  | nil => exact (List.append_nil x).symm
  | cons a t ih => rw [List.foldl_cons, ih, List.flatMap_cons, List.append_assoc]

/-- summing over the pieces pair by pair -/
theorem foldl_add_pieces (g : Iv Bool → Nat) (A : List (Iv α)) (B : List (Iv β)) (x : Nat) :
    A.foldl (fun x a => x + ((B.filter (·.ov a.start a.stop)).map (fun b => g (piece a b))).sum) x
      = x + ((piecesOf A B).map g).sum := by
  induction A generalizing x with
  | nil => rfl
  | cons a t ih =>
    rw [List.foldl_cons, ih]
    unfold piecesOf
    rw [List.flatMap_cons, List.map_append, List.sum_append, List.map_map, Nat.add_assoc]
    rfl

theorem pieces_fold_eq (a : Lapper α) (b : Lapper β) (ha : SortedStart a.intervals.toList) (hb : Inv b) :
    (a.intervals.toList.foldl (fun (acc : List (Iv Bool) × Nat) siv =>
      let (hits, c) := b.seek siv.start siv.stop acc.2
      (acc.1 ++ hits.map (fun oiv => (⟨max siv.start oiv.start, min siv.stop oiv.stop, true⟩ : Iv Bool)), c)) ([], 0)).1
      = piecesOf a.intervals.toList b.intervals.toList := by
  have := seekFold b hb.sortedStart hb.maxLen_ge
    (fun (x : List (Iv Bool)) (siv : Iv α) hits => x ++ hits.map (piece siv))
    a.intervals.toList ha [] 0 0 (Below.zero _ _) (fun _ _ => Nat.zero_le _)
  rw [foldl_append_flatMap, List.nil_append] at this
  exact this

/-- `Interval::intersect` of a pair is the length of its piece -/
theorem isect_fold_eq (a : Lapper α) (b : Lapper β) (ha : SortedStart a.intervals.toList) (hb : Inv b) :
    (a.intervals.toList.foldl (fun (acc : Nat × Nat) c1 =>
      let (hits, c) := b.seek c1.start c1.stop acc.2
      (acc.1 + (hits.map (fun c2 => c1.inter c2)).sum, c)) (0, 0)).1
      = ((piecesOf a.intervals.toList b.intervals.toList).map Iv.len).sum := by
  have := seekFold b hb.sortedStart hb.maxLen_ge
    (fun (x : Nat) (siv : Iv α) hits => x + (hits.map (fun oiv => (piece siv oiv).len)).sum)
    a.intervals.toList ha 0 0 0 (Below.zero _ _) (fun _ _ => Nat.zero_le _)
  rw [foldl_add_pieces Iv.len, Nat.zero_add] at this
  exact this

/-- both code paths, for two reachable states -/
theorem Lapper.Hist.unionAndIntersect {a : Lapper α} {b : Lapper β} {Ra : List (Iv α)} {Rb : List (Iv β)}
    (ha : a.Hist Ra) (hb : b.Hist Rb) : a.unionAndIntersect b = (unionCount Ra Rb, interCount Ra Rb) := by
  rw [← unionCount_eq_sub_add, ← ha.getCov, ← hb.getCov, ← interCount_congr ha.cov hb.cov, ← coveredCount_piecesOf]
  unfold Lapper.unionAndIntersect
  split
  · -- materialise the pieces, merge, count
    have hp := pieces_fold_eq a b ha.inv.sortedStart hb.inv
    generalize List.foldl _ _ a.intervals.toList = r at hp ⊢
    obtain ⟨pieces, c⟩ := r
    simp only at hp ⊢
    rw [hp, ((Lapper.Hist.new _ (piecesOf_nonempty _ _ ha.ne hb.ne)).merge.setCov).getCov]
  · -- both merged: the pieces are canonical, and their lengths are added up
    rename_i hm
    have hm' : a.merged = true ∧ b.merged = true := by
      cases h1 : a.merged <;> cases h2 : b.merged <;> simp [h1, h2] at hm ⊢
    have hp := isect_fold_eq a b ha.inv.sortedStart hb.inv
    rw [← coveredCount_separated _ (piecesOf_canonical _ _ (ha.flag hm'.1) (hb.flag hm'.2)).2] at hp
    generalize List.foldl _ _ a.intervals.toList = r at hp ⊢
    obtain ⟨isect, c⟩ := r
    simp only at hp ⊢
    rw [hp]

theorem recordsOf_append_merge (l : List (Iv α)) (ops : List (Op α)) : recordsOf l (ops ++ [.merge]) = recordsOf l ops := by
  simp [recordsOf, insertedOf]

end BV
