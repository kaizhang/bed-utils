import BedVerif.Model.Store
import BedVerif.Lemmas.C09Le
namespace BV

/-- the outcome of a writer run from plan `p0` to plan `p1` with status `r`: the consumed entries are
explicit; `ok` means `good` holds and no hard error was consumed, `err` means a hard error was consumed -/
def WRun (p0 p1 : List WFault) (r : IoRes Unit) (good : Prop) : Prop :=
  ∃ used, p0 = used ++ p1 ∧
    ((r = .ok () ∧ good ∧ ∀ f ∈ used, f ≠ WFault.fail) ∨ (r = .err ∧ WFault.fail ∈ used))

theorem WRun.refl (p : List WFault) (good : Prop) (h : good) : WRun p p (.ok ()) good :=
  ⟨[], rfl, .inl ⟨rfl, h, by simp⟩⟩

theorem WRun.trans {p0 p1 p2 : List WFault} {r : IoRes Unit} {g1 g2 g : Prop}
    (h1 : WRun p0 p1 (.ok ()) g1) (h2 : WRun p1 p2 r g2) (hg : g1 → g2 → g) : WRun p0 p2 r g := by
  obtain ⟨u1, e1, h1⟩ := h1
  obtain ⟨u2, e2, h2⟩ := h2
  refine ⟨u1 ++ u2, by rw [e1, e2, List.append_assoc], ?_⟩
  rcases h1 with ⟨_, hg1, hu1⟩ | ⟨h, _⟩
  · rcases h2 with ⟨hr, hg2, hu2⟩ | ⟨hr, hu2⟩
    · refine .inl ⟨hr, hg hg1 hg2, ?_⟩
      intro f hf
      rcases List.mem_append.mp hf with hf | hf
      · exact hu1 f hf
      · exact hu2 f hf
    · exact .inr ⟨hr, List.mem_append.mpr (.inr hu2)⟩
  · cases h

theorem WRun.err_of_ok {p0 p1 : List WFault} {g1 g : Prop}
    (h1 : WRun p0 p1 .err g1) : WRun p0 p1 .err g := by
  obtain ⟨u1, e1, h1⟩ := h1
  refine ⟨u1, e1, ?_⟩
  rcases h1 with ⟨h, _⟩ | h
  · cases h
  · exact .inr h

theorem WRun.mono {p0 p1 : List WFault} {r : IoRes Unit} {g1 g : Prop}
    (h1 : WRun p0 p1 r g1) (hg : g1 → g) : WRun p0 p1 r g := by
  obtain ⟨u1, e1, h1⟩ := h1
  refine ⟨u1, e1, ?_⟩
  rcases h1 with ⟨h, h', h''⟩ | h
  · exact .inl ⟨h, hg h', h''⟩
  · exact .inr h

theorem writeAll_spec : ∀ (fuel : Nat) (s : WStore) (buf : Bytes), buf.length < fuel →
    WRun s.plan (s.writeAll fuel buf).2.plan (s.writeAll fuel buf).1
      ((s.writeAll fuel buf).2.data = s.data ++ buf) := by
  intro fuel
  induction fuel with
  | zero => intro s buf h; exact absurd h (Nat.not_lt_zero _)
  | succ fuel ih =>
    intro s buf hlen
    cases buf with
    | nil => exact WRun.refl _ _ (List.append_nil _).symm
    | cons b bs =>
      obtain ⟨data, plan⟩ := s
      have hbs : bs.length < fuel := Nat.lt_of_succ_lt_succ hlen
      cases plan with
      | nil =>
        have e : (WStore.mk data []).writeAll (fuel+1) (b :: bs) =
            (WStore.mk (data ++ (b :: bs)) []).writeAll fuel ((b :: bs).drop (b :: bs).length) := rfl
        rw [e, List.drop_length]
        exact (ih ⟨data ++ (b :: bs), []⟩ [] (Nat.zero_lt_of_lt hbs)).mono fun h => by rw [h, List.append_nil]
      | cons f p =>
        cases f with
        | fail => exact ⟨[.fail], rfl, .inr ⟨rfl, List.mem_singleton_self _⟩⟩
        | accept k =>
          obtain ⟨m, hm⟩ : ∃ m, min (max k 1) (bs.length + 1) = m + 1 := Nat.exists_eq_succ_of_ne_zero
            (Nat.ne_of_gt (Nat.lt_min.mpr ⟨Nat.le_max_right k 1, Nat.succ_pos _⟩))
          have e : (WStore.mk data (.accept k :: p)).writeAll (fuel+1) (b :: bs) =
              (WStore.mk (data ++ (b :: bs).take (m+1)) p).writeAll fuel ((b :: bs).drop (m+1)) := by
            simp only [WStore.writeAll, WStore.write, List.isEmpty_cons, List.length_cons, hm]
            rfl
          rw [e]
          have := ih ⟨data ++ (b :: bs).take (m+1), p⟩ ((b :: bs).drop (m+1))
            (by rw [List.length_drop, List.length_cons, Nat.succ_sub_succ]; exact Nat.lt_of_le_of_lt (Nat.sub_le ..) hbs)
          have h1 : WRun (.accept k :: p) p (.ok ()) True :=
            ⟨[.accept k], rfl, .inl ⟨rfl, trivial, fun f hf => by cases List.mem_singleton.mp hf; exact nofun⟩⟩
          refine WRun.trans h1 this fun _ h => ?_
          rw [h, List.append_assoc, List.take_append_drop]
theorem WRun.ok_of_noHard {p0 p1 : List WFault} {r : IoRes Unit} {g : Prop}
    (h : WRun p0 p1 r g) (hn : ∀ f ∈ p0, f ≠ WFault.fail) :
    r = .ok () ∧ g ∧ ∀ f ∈ p1, f ≠ WFault.fail := by
  obtain ⟨u, e, h⟩ := h
  subst e
  rcases h with ⟨hr, hg, _⟩ | ⟨_, hu⟩
  · exact ⟨hr, hg, fun f hf => hn f (List.mem_append.mpr (.inr hf))⟩
  · exact absurd rfl (hn _ (List.mem_append.mpr (.inl hu)))

theorem WRun.of_ok {p0 p1 : List WFault} {r : IoRes Unit} {g : Prop}
    (h : WRun p0 p1 r g) (hr : r = .ok ()) :
    g ∧ ∀ f ∈ p0.take (p0.length - p1.length), f ≠ WFault.fail := by
  obtain ⟨u, e, h⟩ := h
  subst e
  have : (u ++ p1).take ((u ++ p1).length - p1.length) = u := by
    rw [List.length_append, Nat.add_sub_cancel]
    exact List.take_left'  rfl
  rw [this]
  rcases h with ⟨_, hg, hu⟩ | ⟨hr', _⟩
  · exact ⟨hg, hu⟩
  · rw [hr] at hr'; cases hr'

theorem WRun.err_mem {p0 p1 : List WFault} {g : Prop} (h : WRun p0 p1 .err g) : WFault.fail ∈ p0 := by
  obtain ⟨u, rfl, h⟩ := h
  rcases h with ⟨h, _⟩ | ⟨_, h⟩
  · cases h
  · exact List.mem_append_left _ h

theorem WRun.ok_good {p0 p1 : List WFault} {g : Prop} (h : WRun p0 p1 (.ok ()) g) : g :=
  (h.of_ok rfl).1

/-- the `?` of the writers: continue with `k` after `ok`, stop at `err` -/
def andThenW (r1 : IoRes Unit × WStore) (k : WStore → IoRes Unit × WStore) : IoRes Unit × WStore :=
  match r1 with
  | (.err, s1) => (.err, s1)
  | (.ok (), s1) => k s1

/-- a run from `s` with result `r` that, if it reports `ok`, has appended exactly `out` -/
def Wrote (s : WStore) (r : IoRes Unit × WStore) (out : Bytes) : Prop :=
  WRun s.plan r.2.plan r.1 (r.2.data = s.data ++ out)

theorem Wrote.nil (s : WStore) : Wrote s (.ok (), s) [] := WRun.refl _ _ (List.append_nil _).symm

theorem Wrote.andThen {s : WStore} {r1 : IoRes Unit × WStore} {k : WStore → IoRes Unit × WStore} {o1 o2 : Bytes}
    (h1 : Wrote s r1 o1) (h2 : Wrote r1.2 (k r1.2) o2) : Wrote s (andThenW r1 k) (o1 ++ o2) := by
  obtain ⟨r, s1⟩ := r1
  cases r with
  | err => exact WRun.err_of_ok h1
  | ok u =>
    exact WRun.trans h1 h2 fun (a : s1.data = _) (b : (k s1).2.data = _) =>
      show (k s1).2.data = _ by rw [b, a, List.append_assoc]

theorem writeAll_wrote (s : WStore) (buf : Bytes) : Wrote s (s.writeAll (buf.length + 1) buf) buf :=
  writeAll_spec _ s buf (Nat.lt_succ_self _)

-- `dumpBare s (p :: ps)` unfolds to
-- `andThenW (s.writeAll 9 header) fun s1 => andThenW (s1.writeAll _ p) fun s2 => dumpBare s2 ps`
theorem dumpBare_spec : ∀ (ps : List Bytes) (s : WStore), Wrote s (dumpBare s ps) (frames ps)
  | [], s => Wrote.nil s
  | p :: ps, s => by
    rw [frames_cons]
    have h1 : Wrote s (s.writeAll 9 (le64 p.length)) (le64 p.length) :=
      writeAll_spec 9 s _ (by rw [C09_le64_length]; exact Nat.lt_succ_self 8)
    exact h1.andThen ((writeAll_wrote _ p).andThen (dumpBare_spec ps _))

def andThenB (r1 : IoRes Unit × BufW) (k : BufW → IoRes Unit × BufW) : IoRes Unit × BufW :=
  match r1 with
  | (.err, w1) => (.err, w1)
  | (.ok (), w1) => k w1

/-- what a `BufWriter` has taken charge of: the bytes that reached the storage, then those it holds back -/
def BufW.taken (w : BufW) : Bytes := w.inner.data ++ w.buf

/-- `Wrote` for the `BufWriter`; `post` is what the next step needs to know of the state it starts in
(after a flush: that the buffer is empty) -/
def WroteB (w : BufW) (r : IoRes Unit × BufW) (out : Bytes) (post : BufW → Prop) : Prop :=
  WRun w.inner.plan r.2.inner.plan r.1 (r.2.taken = w.taken ++ out ∧ post r.2)

theorem WroteB.buffered (w : BufW) (b : Bytes) :
    WroteB w (.ok (), { w with buf := w.buf ++ b }) b (fun _ => True) :=
  WRun.refl _ _ ⟨(List.append_assoc ..).symm, trivial⟩

theorem WroteB.andThen {w : BufW} {r1 : IoRes Unit × BufW} {k : BufW → IoRes Unit × BufW} {o1 o2 : Bytes}
    {p1 p2 : BufW → Prop} (h1 : WroteB w r1 o1 p1) (h2 : p1 r1.2 → WroteB r1.2 (k r1.2) o2 p2) :
    WroteB w (andThenB r1 k) (o1 ++ o2) p2 := by
  obtain ⟨r, w1⟩ := r1
  cases r with
  | err => exact WRun.err_of_ok h1
  | ok u =>
    refine WRun.trans h1 (h2 h1.ok_good.2) fun a b => ⟨?_, b.2⟩
    show (k w1).2.taken = _
    rw [b.1, a.1, List.append_assoc]

theorem flushBuf_spec (w : BufW) : WroteB w w.flushBuf [] (·.buf = []) := by
  have h := writeAll_spec (w.buf.length + 1) w.inner w.buf (Nat.lt_succ_self _)
  unfold BufW.flushBuf
  generalize w.inner.writeAll (w.buf.length + 1) w.buf = r at h ⊢
  obtain ⟨r, s⟩ := r
  cases r with
  | err => exact WRun.err_of_ok h
  | ok u => exact WRun.mono h fun (a : s.data = _) => ⟨show s.data ++ [] = w.inner.data ++ w.buf ++ [] by rw [a], rfl⟩

/-- `write_all_cold` after its `flush_buf` -/
def BufW.writeTail (w1 : BufW) (b : Bytes) : IoRes Unit × BufW :=
  if b.length ≥ w1.cap then
    match w1.inner.writeAll (b.length + 1) b with
    | (r, s) => (r, { w1 with inner := s })
  else (.ok (), { w1 with buf := w1.buf ++ b })

theorem BufW.writeAll_eq (w : BufW) (b : Bytes) : w.writeAll b =
    if b.length < w.cap - w.buf.length then (.ok (), { w with buf := w.buf ++ b })
    else andThenB (if b.length > w.cap - w.buf.length then w.flushBuf else (.ok (), w)) (·.writeTail b) := rfl

theorem writeTail_spec (w1 : BufW) (b : Bytes) (h : w1.buf = [] ∨ b = [] ∨ b.length < w1.cap) :
    WroteB w1 (w1.writeTail b) b (fun _ => True) := by
  unfold BufW.writeTail
  split
  · rename_i hc
    have h1 := writeAll_spec (b.length + 1) w1.inner b (Nat.lt_succ_self _)
    generalize w1.inner.writeAll (b.length + 1) b = r at h1 ⊢
    obtain ⟨r, s⟩ := r
    refine WRun.mono h1 fun (a : s.data = _) => ⟨?_, trivial⟩
    show s.data ++ w1.buf = w1.inner.data ++ w1.buf ++ b
    rw [a]
    rcases h with h | h | h
    · rw [h, List.append_nil, List.append_nil]
    · rw [h, List.append_nil, List.append_nil]
    · exact absurd hc (Nat.not_le_of_lt h)
  · exact .buffered w1 b

theorem bufWriteAll_spec (w : BufW) (b : Bytes) : WroteB w (w.writeAll b) b (fun _ => True) := by
  rw [BufW.writeAll_eq]
  split
  · exact .buffered w b
  · split
    · exact (flushBuf_spec w).andThen fun h => writeTail_spec _ b (.inl h)
    · refine (writeTail_spec w b ?_ :)
      by_cases h3 : b.length < w.cap
      · exact .inr (.inr h3)
      · have : w.buf.length = 0 ∨ b.length = 0 := by omega
        exact this.imp List.eq_nil_of_length_eq_zero fun h => .inl (List.eq_nil_of_length_eq_zero h)

theorem dumpBuf_wrote : ∀ (ps : List Bytes) (w : BufW), WroteB w (dumpBuf w ps) (frames ps) (·.buf = [])
  | [], w => flushBuf_spec w
  | p :: ps, w => by
    rw [frames_cons]
    show WroteB w (andThenB (w.writeAll (le64 p.length)) fun w1 => andThenB (w1.writeAll p) fun w2 => dumpBuf w2 ps) _ _
    exact (bufWriteAll_spec w _).andThen fun _ => (bufWriteAll_spec _ p).andThen fun _ => dumpBuf_wrote ps _

theorem dumpBuf_spec (ps : List Bytes) (w : BufW) :
    WRun w.inner.plan (dumpBuf w ps).2.inner.plan (dumpBuf w ps).1
      ((dumpBuf w ps).2.inner.data = w.inner.data ++ w.buf ++ frames ps ∧ (dumpBuf w ps).2.buf = []) :=
  (dumpBuf_wrote ps w).mono fun ⟨a, (b : (dumpBuf w ps).2.buf = [])⟩ =>
    ⟨by rw [BufW.taken, b, List.append_nil] at a; exact a, b⟩

end BV
