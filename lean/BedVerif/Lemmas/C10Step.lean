import BedVerif.Lemmas.C10Ops
/-!
What one call of `Merger.next` does to the items inside (`A`), to coverage (`Cov`, `W`) and to order (`Ord`):
first for the two elementary moves, then for the priming loop and the pop step, then one lemma for each
outcome of `next`.
-/
namespace BV.C10
variable {ε α : Type} {m m' : Merger ε α}

theorem getElem?_set_cases {β : Type} {cs : List β} {i j : Nat} {x c : β} (h : (cs.set i x)[j]? = some c) :
    (j = i ∧ c = x) ∨ (j ≠ i ∧ cs[j]? = some c) := by
  by_cases hij : i = j
  · subst hij
    obtain ⟨_, rfl⟩ := List.getElem?_eq_some_iff.mp h
    exact .inl ⟨rfl, List.getElem_set_self _⟩
  · rw [List.getElem?_set_ne hij] at h
    exact .inr ⟨fun h' => hij h'.symm, h⟩

/-! The elementary moves: the head of chunk `i` leaves its chunk (and enters the heap if it is ok); heap
entries are removed. `h'` is the heap after the removal, which in the pop step comes first. -/

theorem A_pull {i : Nat} {x : Item ε α} {xs : List (Item ε α)}
    (hx : m.chunks[i]? = some (x :: xs)) (h' : List (α × Nat)) (ini : Bool) (hperm : m.heap.Perm h') :
    (A m).Perm (x :: A ⟨h', m.chunks.set i xs, ini⟩) :=
  ((hperm.map _).append (flatten_set_perm m.chunks i x xs hx)).trans List.perm_middle

theorem Ord.pop (h : Ord cmp m) (h' : List (α × Nat))
    (hsub : ∀ p ∈ h', p ∈ m.heap) (ini : Bool) : Ord cmp ⟨h', m.chunks, ini⟩ :=
  fun i c hc => ⟨(h i c hc).1, fun v hv => (h i c hc).2 v (hsub _ hv)⟩

theorem Ord.push {i : Nat} {a : α} {xs : List (Item ε α)}
    (h : Ord cmp m) (hx : m.chunks[i]? = some (.ok a :: xs))
    (h' : List (α × Nat)) (hsub : ∀ p ∈ h', p ∈ m.heap) (ini : Bool) :
    Ord cmp ⟨(a, i) :: h', m.chunks.set i xs, ini⟩ := by
  intro j c hc
  rcases getElem?_set_cases hc with ⟨rfl, rfl⟩ | ⟨hne, hc⟩
  · obtain ⟨hs, hh⟩ := h j _ hx
    rw [okItems_cons_ok, List.pairwise_cons] at hs
    refine ⟨hs.2, fun v hv b hb => ?_⟩
    rcases List.mem_cons.mp hv with heq | hv
    · cases heq; exact hs.1 b hb
    · exact hh v (hsub _ hv) b (List.mem_cons_of_mem _ hb)
  · refine ⟨(h j c hc).1, fun v hv => ?_⟩
    rcases List.mem_cons.mp hv with heq | hv
    · cases heq; exact absurd rfl hne
    · exact (h j c hc).2 v (hsub _ hv)

/-- coverage of chunk `j` alone: the priming loop establishes it index by index -/
def CovAt (j : Nat) (m : Merger ε α) : Prop := ∀ c, m.chunks[j]? = some c → c ≠ [] → ∃ v, (v, j) ∈ m.heap

theorem CovAt.push {i j : Nat} {a : α} {xs : List (Item ε α)} {h' : List (α × Nat)} {ini : Bool}
    (h : j ≠ i → CovAt j m) (hsub : ∀ v, j ≠ i → (v, j) ∈ m.heap → (v, j) ∈ h') :
    CovAt j ⟨(a, i) :: h', m.chunks.set i xs, ini⟩ := by
  intro c hc hne
  rcases getElem?_set_cases hc with ⟨rfl, _⟩ | ⟨hji, hc⟩
  · exact ⟨a, List.mem_cons_self⟩
  · obtain ⟨v, hv⟩ := h hji c hc hne
    exact ⟨v, List.mem_cons_of_mem _ (hsub v hji hv)⟩

/-- `m1` is `m` after the (possibly void) successful priming -/
structure Primed (m m1 : Merger ε α) : Prop where
  init : m1.initiated = true
  perm : (A m1).Perm (A m)
  cov : W m → Cov m1
  ord : ∀ cmp : α → α → Ordering, Ord cmp m → Ord cmp m1

theorem Reach.primed {i k : Nat} (h : Reach i m k m') :
    (A m').Perm (A m) ∧ ((∀ j < i, CovAt j m) → ∀ j < k, CovAt j m') ∧
    ∀ cmp : α → α → Ordering, Ord cmp m → Ord cmp m' := by
  induction h with
  | refl => exact ⟨.refl _, id, fun _ => id⟩
  | push i m a xs k m' _ hx _ ih =>
    refine ⟨ih.1.trans (A_pull hx m.heap m.initiated (.refl _)).symm, fun hc => ih.2.1 fun j hj => ?_,
      fun cmp ho => ih.2.2 cmp (ho.push hx m.heap (fun _ => id) _)⟩
    exact CovAt.push (fun hji => hc j (Nat.lt_of_le_of_ne (Nat.le_of_lt_succ hj) hji)) (fun _ _ => id)
  | skip i m k m' _ hx _ ih =>
    refine ⟨ih.1, fun hc => ih.2.1 fun j hj c hcj hne => ?_, ih.2.2⟩
    by_cases hji : j = i
    · subst hji
      rw [hx] at hcj
      cases hcj
      exact absurd rfl hne
    · exact hc j (Nat.lt_of_le_of_ne (Nat.le_of_lt_succ hj) hji) c hcj hne

theorem primed_none {m1 : Merger ε α} (h : primed m = (m1, none)) : Primed m m1 := by
  unfold primed at h
  split at h
  · next hi => cases h; exact ⟨hi, .refl _, fun hw => hw hi, fun _ => id⟩
  · obtain ⟨k, m'', hr, h1, _⟩ := prime_spec (Nat.lt_succ_self _) h
    obtain ⟨hperm, hcov, hord⟩ := hr.primed
    obtain ⟨rfl, hk⟩ := h1 rfl
    refine ⟨rfl, hperm, fun _ j c hcj => ?_, hord⟩
    exact hcov nofun j (Nat.lt_of_lt_of_le (List.getElem?_eq_some_iff.mp hcj).1 hk) c hcj

theorem primed_some {m1 : Merger ε α} {e : ε} (h : primed m = (m1, some e)) : (A m).Perm (.err e :: A m1) := by
  unfold primed at h
  split at h
  · cases h
  · obtain ⟨k, m'', hr, _, h2⟩ := prime_spec (Nat.lt_succ_self _) h
    obtain ⟨xs, hx, rfl⟩ := h2 e rfl
    exact hr.primed.1.symm.trans (A_pull hx m''.heap m''.initiated (.refl _))

theorem min_all (hcmp : TotalPreorder cmp) {v : α} {idx : Nat} {rest : List (α × Nat)}
    (hp : popBest cmp m.heap = some ((v, idx), rest)) (hc : Cov m) (ho : Ord cmp m) :
    ∀ b ∈ okItems (A m), le cmp v b := by
  intro b hb
  have hmin := popBest_min hcmp hp
  rcases List.mem_append.mp (mem_okItems.mp hb) with hb | hb
  · obtain ⟨p, hp', heq⟩ := List.mem_map.mp hb
    cases heq
    exact hmin p hp'
  · obtain ⟨c, hc', hbc⟩ := List.mem_flatten.mp hb
    obtain ⟨j, hj⟩ := List.mem_iff_getElem?.mp hc'
    obtain ⟨w, hw⟩ := hc j c hj (List.ne_nil_of_mem hbc)
    exact hcmp.trans _ _ _ (hmin _ hw) ((ho j c hj).2 w hw b (mem_okItems.mpr hbc))

theorem pop_ok {v : α} (h : PopCase cmp m (some (.ok v)) m') :
    (A m).Perm (.ok v :: A m') ∧ m'.initiated = m.initiated ∧ (Cov m → Cov m') ∧ (Ord cmp m → Ord cmp m') ∧
    (TotalPreorder cmp → Cov m → Ord cmp m → ∀ b ∈ okItems (A m), le cmp v b) := by
  cases h with
  | refill v idx rest a xs hp hx =>
    refine ⟨(A_pull hx _ m.initiated (popBest_perm hp)).trans (.swap _ _ _), rfl, fun hc j => ?_,
      fun ho => ho.push hx rest (fun p h => (popBest_mem hp).mpr (.inr h)) _, fun hcmp => min_all hcmp hp⟩
    refine CovAt.push (fun _ => hc j) (fun w hji hw => ?_)
    rcases (popBest_mem hp).mp hw with heq | hw'
    · cases heq; exact absurd rfl hji
    · exact hw'
  | dry v idx rest hp hx =>
    refine ⟨((popBest_perm hp).map _).append_right _, rfl, fun hc j c hcj hne => ?_,
      fun ho => ho.pop rest (fun p h => (popBest_mem hp).mpr (.inr h)) _, fun hcmp => min_all hcmp hp⟩
    obtain ⟨w, hw⟩ := hc j c hcj hne
    rcases (popBest_mem hp).mp hw with heq | hw'
    · cases heq; exact absurd (hx c hcj) hne
    · exact ⟨w, hw'⟩

theorem pop_err {e : ε} (h : PopCase cmp m (some (.err e)) m') :
    ∃ v, (A m).Perm (.err e :: .ok v :: A m') := by
  cases h with
  | failed v idx rest e xs hp hx => exact ⟨v, A_pull hx ((v, idx) :: rest) m.initiated (popBest_perm hp)⟩

inductive NextCase (cmp : α → α → Ordering) (m : Merger ε α) : Option (Item ε α) → Merger ε α → Prop
  | primeErr (e m') : (A m).Perm (.err e :: A m') → NextCase cmp m (some (.err e)) m'
  | pop (m1 o m') : Primed m m1 → PopCase cmp m1 o m' → NextCase cmp m o m'

theorem next_cases {o : Option (Item ε α)} (h : m.next cmp = (o, m')) : NextCase cmp m o m' := by
  rw [next_eq] at h
  rcases hp : primed m with ⟨m1, _ | e⟩
  · rw [hp] at h
    have := popStep_cases cmp m1
    rw [show popStep cmp m1 = (o, m') from h] at this
    exact .pop m1 o m' (primed_none hp) this
  · rw [hp] at h
    cases h
    exact .primeErr e m1 (primed_some hp)

theorem next_ok {v : α} (h : m.next cmp = (some (.ok v), m')) :
    (A m).Perm (.ok v :: A m') ∧ (W m → m'.initiated = true ∧ Cov m' ∧
      (TotalPreorder cmp → Ord cmp m → Ord cmp m' ∧ ∀ b ∈ okItems (A m), le cmp v b)) := by
  cases next_cases h with
  | pop m1 _ _ hpr hpc =>
    obtain ⟨hperm, hini, hcov, hord, hmin⟩ := pop_ok hpc
    refine ⟨hpr.perm.symm.trans hperm, fun hw => ⟨hini.trans hpr.init, hcov (hpr.cov hw), fun hcmp ho => ?_⟩⟩
    refine ⟨hord (hpr.ord cmp ho), fun b hb => hmin hcmp (hpr.cov hw) (hpr.ord cmp ho) b ?_⟩
    exact (okItems_perm hpr.perm).mem_iff.mpr hb

theorem next_err {e : ε} (h : m.next cmp = (some (.err e), m')) : ∃ d, (A m).Perm (.err e :: (d ++ A m')) := by
  cases next_cases h with
  | primeErr _ _ hp => exact ⟨[], hp⟩
  | pop m1 _ _ hpr hpc =>
    obtain ⟨v, hv⟩ := pop_err hpc
    exact ⟨[.ok v], hpr.perm.symm.trans hv⟩

theorem next_ended (hi : m.initiated = true) (h0 : m.heap = []) : m.next cmp = (none, m) := by
  rw [next_eq, primed, if_pos hi, popStep, h0]
  rfl

theorem next_none (h : m.next cmp = (none, m')) : m'.next cmp = (none, m') ∧ (W m → A m = []) := by
  cases next_cases h with
  | pop m1 _ _ hpr hpc =>
    cases hpc with
    | ended h0 =>
      refine ⟨next_ended hpr.init h0, fun hw => (hpr.perm.symm.trans ?_).eq_nil⟩
      -- an empty heap covers no chunk
      have hnil : m'.chunks.flatten = [] := List.flatten_eq_nil_iff.mpr fun c hc => by
        obtain ⟨i, hci⟩ := List.mem_iff_getElem?.mp hc
        cases c with
        | nil => rfl
        | cons y ys =>
          obtain ⟨w, hw'⟩ := hpr.cov hw i _ hci (List.cons_ne_nil _ _)
          rw [h0] at hw'
          cases hw'
      rw [A, h0, hnil]
      rfl

end BV.C10
