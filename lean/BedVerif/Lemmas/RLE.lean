import BedVerif.Lemmas.CoverVocab
/-!
The maximal run-length encoding of a function on positions in recursive form, `RLEFrom f lo runs`. The form looks
forward, the way a sweep or an iterator produces its runs; it determines the run list; for `f = depthOf l`, `lo = 0` it
is the specification of C20.
-/
namespace BV
variable {α : Type}

/-- `runs` is the maximal run-length encoding of the positive values of `f` over the positions `≥ lo` -/
def RLEFrom (f : Nat → Nat) : Nat → List (Iv Nat) → Prop
  | lo, [] => ∀ p, lo ≤ p → f p = 0
  | lo, r :: rs =>
      lo ≤ r.start ∧ r.start < r.stop ∧ 0 < r.val ∧
      (∀ p, lo ≤ p → p < r.start → f p = 0) ∧
      (∀ p, r.start ≤ p → p < r.stop → f p = r.val) ∧
      f r.stop ≠ r.val ∧ RLEFrom f r.stop rs

/-- the second clause with the run spelt out, so that no projection of a structure literal is left in the goals -/
theorem RLEFrom.cons {f : Nat → Nat} {lo a b v : Nat} {rs : List (Iv Nat)} (h1 : lo ≤ a) (h2 : a < b) (h3 : 0 < v)
    (h4 : ∀ p, lo ≤ p → p < a → f p = 0) (h5 : ∀ p, a ≤ p → p < b → f p = v) (h6 : f b ≠ v)
    (h7 : RLEFrom f b rs) : RLEFrom f lo (⟨a, b, v⟩ :: rs) :=
  ⟨h1, h2, h3, h4, h5, h6, h7⟩

theorem RLEFrom.mem {f : Nat → Nat} : ∀ {rs : List (Iv Nat)} {lo : Nat}, RLEFrom f lo rs →
    ∀ r ∈ rs, lo ≤ r.start ∧ r.start < r.stop ∧ 0 < r.val ∧ ∀ p, r.start ≤ p → p < r.stop → f p = r.val := by
  intro rs
  induction rs with
  | nil => intro _ _ r hr; cases hr
  | cons r0 rs ih =>
    intro lo ⟨h1, h2, h3, _, h5, _, h7⟩ r hr
    rcases List.mem_cons.mp hr with rfl | hr
    · exact ⟨h1, h2, h3, h5⟩
    · obtain ⟨i1, i⟩ := ih h7 r hr
      exact ⟨by omega, i⟩

theorem RLEFrom.stop_ne {f : Nat → Nat} : ∀ {rs : List (Iv Nat)} {lo : Nat}, RLEFrom f lo rs →
    ∀ r ∈ rs, f r.stop ≠ r.val := by
  intro rs
  induction rs with
  | nil => intro _ _ r hr; cases hr
  | cons r0 rs ih =>
    intro lo ⟨_, _, _, _, _, h6, h7⟩ r hr
    rcases List.mem_cons.mp hr with rfl | hr
    · exact h6
    · exact ih h7 r hr

theorem RLEFrom.pairwise {f : Nat → Nat} : ∀ {rs : List (Iv Nat)} {lo : Nat}, RLEFrom f lo rs →
    rs.Pairwise (fun a b => a.stop ≤ b.start) := by
  intro rs
  induction rs with
  | nil => intro _ _; exact List.Pairwise.nil
  | cons r0 rs ih =>
    intro lo ⟨_, _, _, _, _, _, h7⟩
    exact List.pairwise_cons.mpr ⟨fun b hb => (RLEFrom.mem h7 b hb).1, ih h7⟩

theorem RLEFrom.tiles {f : Nat → Nat} : ∀ {rs : List (Iv Nat)} {lo : Nat}, RLEFrom f lo rs →
    ∀ p, lo ≤ p → (0 < f p ↔ ∃ r ∈ rs, r.covers p = true) := by
  intro rs
  induction rs with
  | nil =>
    intro lo h p hp
    rw [h p hp]
    exact ⟨fun h0 => absurd h0 (Nat.lt_irrefl 0), fun ⟨_, hr, _⟩ => by cases hr⟩
  | cons r0 rs ih =>
    intro lo ⟨_, _, h3, h4, h5, _, h7⟩ p hp
    by_cases hin : p < r0.stop
    · -- nothing of `rs` reaches below `r0.stop`
      have hrs : ∀ r ∈ rs, ¬ r.covers p = true := fun r hr hc => by
        have := (RLEFrom.mem h7 r hr).1
        rw [Iv.covers_iff] at hc; omega
      by_cases hlt : p < r0.start
      · rw [h4 p hp hlt]
        refine ⟨fun h0 => absurd h0 (Nat.lt_irrefl 0), fun ⟨r, hr, hc⟩ => ?_⟩
        rcases List.mem_cons.mp hr with rfl | hr
        · rw [Iv.covers_iff] at hc; omega
        · exact absurd hc (hrs r hr)
      · rw [h5 p (by omega) hin]
        exact ⟨fun _ => ⟨r0, List.mem_cons_self, (Iv.covers_iff _ _).mpr ⟨by omega, hin⟩⟩, fun _ => h3⟩
    · rw [ih h7 p (by omega)]
      refine ⟨fun ⟨r, hr, hc⟩ => ⟨r, List.mem_cons_of_mem _ hr, hc⟩, fun ⟨r, hr, hc⟩ => ?_⟩
      rcases List.mem_cons.mp hr with rfl | hr
      · rw [Iv.covers_iff] at hc; omega
      · exact ⟨r, hr, hc⟩

/-- two touching runs differ in value: `f` takes the value of the second at its start, which is where the first stops -/
theorem RLEFrom.maximal {f : Nat → Nat} : ∀ {rs : List (Iv Nat)} {lo : Nat}, RLEFrom f lo rs →
    ∀ i (h : i + 1 < rs.length), rs[i].stop = rs[i+1].start → rs[i].val ≠ rs[i+1].val := by
  intro rs lo h i hi heq hval
  obtain ⟨_, k2, _, k4⟩ := h.mem rs[i+1] (List.getElem_mem hi)
  apply h.stop_ne rs[i] (List.getElem_mem _)
  rw [heq, hval]
  exact k4 _ (Nat.le_refl _) k2

theorem RLEFrom.lower {f : Nat → Nat} {p q : Nat} {rs : List (Iv Nat)} (h : RLEFrom f q rs) (hpq : p ≤ q)
    (hz : ∀ x, p ≤ x → x < q → f x = 0) : RLEFrom f p rs := by
  have hz' : ∀ x, p ≤ x → (q ≤ x → f x = 0) → f x = 0 := fun x hx h' =>
    (Nat.lt_or_ge x q).elim (hz x hx) h'
  cases rs with
  | nil => exact fun x hx => hz' x hx (h x)
  | cons r rs =>
    obtain ⟨h1, h2, h3, h4, h5, h6, h7⟩ := h
    exact ⟨by omega, h2, h3, fun x hx hlt => hz' x hx (fun hq => h4 x hq hlt), h5, h6, h7⟩

/-- the five clauses of the specification (relative to `lo`) give the recursive form -/
theorem rleFrom_of_clauses (f : Nat → Nat) : ∀ (rs : List (Iv Nat)) (lo : Nat),
    (∀ r ∈ rs, r.start < r.stop) →
    rs.Pairwise (fun a b => a.stop ≤ b.start) →
    (∀ r ∈ rs, ∀ p, r.covers p = true → f p = r.val ∧ 0 < r.val) →
    (∀ p, lo ≤ p → (0 < f p ↔ ∃ r ∈ rs, r.covers p = true)) →
    (∀ r ∈ rs, lo ≤ r.start) →
    (∀ i (h : i + 1 < rs.length), (rs[i]'(Nat.lt_of_succ_lt h)).stop = rs[i+1].start →
      (rs[i]'(Nat.lt_of_succ_lt h)).val ≠ rs[i+1].val) →
    RLEFrom f lo rs := by
  intro rs
  induction rs with
  | nil =>
    intro lo _ _ _ h4 _ _ p hp
    rcases Nat.eq_zero_or_pos (f p) with h0 | h0
    · exact h0
    · obtain ⟨r, hr, _⟩ := (h4 p hp).mp h0; cases hr
  | cons r0 rs ih =>
    intro lo h1 h2 h3 h4 h5 h6
    have hne := h1 r0 List.mem_cons_self
    have hlo := h5 r0 List.mem_cons_self
    have hpw := List.pairwise_cons.mp h2
    have hv := fun p h => h3 r0 List.mem_cons_self p ((Iv.covers_iff r0 p).mpr h)
    have hpos := (hv r0.start ⟨Nat.le_refl _, hne⟩).2
    have ht : RLEFrom f r0.stop rs := by
      refine ih r0.stop (fun r hr => h1 r (List.mem_cons_of_mem _ hr)) hpw.2
        (fun r hr => h3 r (List.mem_cons_of_mem _ hr)) (fun p hp => ?_) hpw.1
        (fun i hi => h6 (i+1) (Nat.succ_lt_succ hi))
      rw [h4 p (by omega)]
      refine ⟨fun ⟨r, hr, hc⟩ => ?_, fun ⟨r, hr, hc⟩ => ⟨r, List.mem_cons_of_mem _ hr, hc⟩⟩
      rcases List.mem_cons.mp hr with rfl | hr
      · rw [Iv.covers_iff] at hc; omega
      · exact ⟨r, hr, hc⟩
    refine ⟨hlo, hne, hpos, fun p hp hlt => ?_, fun p hp1 hp2 => (hv p ⟨hp1, hp2⟩).1, ?_, ht⟩
    · rcases Nat.eq_zero_or_pos (f p) with hf | hf
      · exact hf
      · obtain ⟨r, hr, hc⟩ := (h4 p hp).mp hf
        rw [Iv.covers_iff] at hc
        rcases List.mem_cons.mp hr with rfl | hr
        · omega
        · have := hpw.1 r hr; omega
    · -- read off the tail: at `r0.stop` the next run starts, with another value, or `f` is 0
      cases rs with
      | nil => rw [ht r0.stop (Nat.le_refl _)]; omega
      | cons r1 rs' =>
        obtain ⟨_, k2, _, k4, k5, _, _⟩ := ht
        have h01 := hpw.1 r1 List.mem_cons_self
        by_cases hst : r0.stop = r1.start
        · rw [k5 r0.stop (by omega) (by omega)]
          exact fun e => h6 0 (Nat.succ_lt_succ (Nat.zero_lt_succ _)) hst e.symm
        · rw [k4 r0.stop (Nat.le_refl _) (by omega)]
          omega

theorem RLEFrom.unique {f : Nat → Nat} : ∀ {r₁ r₂ : List (Iv Nat)} {lo : Nat},
    RLEFrom f lo r₁ → RLEFrom f lo r₂ → r₁ = r₂ := by
  -- an encoding with a first run and an empty one disagree at the start of that run
  have nil_cons : ∀ {lo : Nat} {b : Iv Nat} {bs : List (Iv Nat)}, RLEFrom f lo [] → RLEFrom f lo (b :: bs) → False := by
    intro lo b bs h1 ⟨k1, k2, k3, _, k5, _, _⟩
    have := h1 b.start k1
    have := k5 b.start (Nat.le_refl _) k2
    omega
  intro r₁
  induction r₁ with
  | nil =>
    intro r₂ lo h1 h2
    cases r₂ with
    | nil => rfl
    | cons b bs => exact (nil_cons h1 h2).elim
  | cons a as ih =>
    intro r₂ lo h1 h2
    cases r₂ with
    | nil => exact (nil_cons h2 h1).elim
    | cons b bs =>
      obtain ⟨a1, a2, a3, a4, a5, a6, a7⟩ := h1
      obtain ⟨b1, b2, b3, b4, b5, b6, b7⟩ := h2
      have hstart : a.start = b.start := by
        have := a5 a.start (Nat.le_refl _) a2
        have := b5 b.start (Nat.le_refl _) b2
        rcases Nat.lt_trichotomy a.start b.start with h | h | h
        · have := b4 a.start a1 h; omega
        · exact h
        · have := a4 b.start b1 h; omega
      have hval : a.val = b.val := by
        have := a5 a.start (Nat.le_refl _) a2
        have := b5 a.start (by omega) (by omega)
        omega
      have hstop : a.stop = b.stop := by
        rcases Nat.lt_trichotomy a.stop b.stop with h | h | h
        · have := b5 a.stop (by omega) h; omega
        · exact h
        · have := a5 b.stop (by omega) h; omega
      have hab : a = b := by
        cases a; cases b; simp only at hstart hval hstop; subst hstart hval hstop; rfl
      subst hab
      rw [ih a7 b7]

theorem rleFrom_of_isDepthRLE (l : List (Iv α)) (runs : List (Iv Nat)) (h : IsDepthRLE l runs) :
    RLEFrom (depthOf l) 0 runs :=
  rleFrom_of_clauses (depthOf l) runs 0 h.nonempty h.ascending h.value
    (fun p _ => (depthOf_pos l p).trans (h.tiles p)) (fun _ _ => Nat.zero_le _) h.maximal

theorem isDepthRLE_of_rleFrom (l : List (Iv α)) (runs : List (Iv Nat)) (h : RLEFrom (depthOf l) 0 runs) :
    IsDepthRLE l runs where
  nonempty := fun r hr => (h.mem r hr).2.1
  ascending := h.pairwise
  value := fun r hr p hc => by
    obtain ⟨_, _, k3, k4⟩ := h.mem r hr
    rw [Iv.covers_iff] at hc
    exact ⟨k4 p hc.1 hc.2, k3⟩
  tiles := fun p => (depthOf_pos l p).symm.trans (h.tiles p (Nat.zero_le _))
  maximal := h.maximal

theorem isDepthRLE_iff_rleFrom (l : List (Iv α)) (runs : List (Iv Nat)) :
    IsDepthRLE l runs ↔ RLEFrom (depthOf l) 0 runs :=
  ⟨rleFrom_of_isDepthRLE l runs, isDepthRLE_of_rleFrom l runs⟩

theorem isDepthRLE_unique (l : List (Iv α)) (r₁ r₂ : List (Iv Nat))
    (h₁ : IsDepthRLE l r₁) (h₂ : IsDepthRLE l r₂) : r₁ = r₂ :=
  (rleFrom_of_isDepthRLE l r₁ h₁).unique (rleFrom_of_isDepthRLE l r₂ h₂)

#print axioms RLEFrom.unique
#print axioms isDepthRLE_iff_rleFrom
#print axioms isDepthRLE_unique
end BV
