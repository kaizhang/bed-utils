import BedVerif.Lemmas.C08Sweep
import BedVerif.Lemmas.C08Spec
import BedVerif.Lemmas.C08Group
/-! C08: the per-group closure `bedgraphGroup` on one group meets the clauses (`Pointwise`). -/
namespace BV.C08

theorem fsum_breakpoints (g : List BG) (c : Bytes) (hc : ∀ b ∈ g, b.chrom = c) (hne : ∀ b ∈ g, b.start < b.stop)
    (p : Nat) : fsum (fun k => decide (k ≤ p)) (breakpointsOf g) = sumAt g c p := by
  unfold breakpointsOf sumAt
  rw [fsum_events BG.start BG.stop BG.value g (fun b hb => Nat.le_of_lt (hne b hb))]
  congr 2
  exact List.filter_congr (fun b hb => by simp only [hc b hb, true_and, bg_mem_iff])

theorem mem_breakpoints (g : List BG) (x : Pt) :
    x ∈ breakpointsOf g ↔ ∃ b ∈ g, x = (b.start, b.value) ∨ x = (b.stop, -b.value) := by
  simp [breakpointsOf, List.mem_flatMap]

theorem ptLe_total : TotalLe (fun a b : Pt => decide (a.1 ≤ b.1)) :=
  ⟨fun a b => by simp; omega, fun a b c => by simp; omega⟩

theorem chunk_positions {g : List BG} {pts : List Pt} (hperm : pts.Perm (breakpointsOf g)) :
    (∀ x ∈ chunkSums pts, ∃ b ∈ g, x.1 = b.start ∨ x.1 = b.stop) ∧
    (∀ b ∈ g, (∃ v, (b.start, v) ∈ chunkSums pts) ∧ ∃ v, (b.stop, v) ∈ chunkSums pts) := by
  constructor
  · intro x hx
    obtain ⟨y, hy, e⟩ := chunkSums_key_mem pts x hx
    obtain ⟨b, hb, hor⟩ := (mem_breakpoints g y).mp (hperm.mem_iff.mp hy)
    exact ⟨b, hb, hor.imp (fun h => by rw [← e, h]) (fun h => by rw [← e, h])⟩
  · intro b hb
    exact ⟨mem_chunkSums_key pts (b.start, b.value) (hperm.mem_iff.mpr ((mem_breakpoints g _).mpr ⟨b, hb, Or.inl rfl⟩)),
      mem_chunkSums_key pts (b.stop, -b.value) (hperm.mem_iff.mpr ((mem_breakpoints g _).mpr ⟨b, hb, Or.inr rfl⟩))⟩

theorem group_chunks {g : List BG} {c : Bytes} {s e : Nat} (hg : GroupOK BG.toRec g c s e)
    (hne : ∀ b ∈ g, b.start < b.stop) {pts : List Pt} (hperm : pts.Perm (breakpointsOf g))
    (hsorted : pts.Pairwise (fun a b => a.1 ≤ b.1)) :
    ∃ s0 x1 rest, chunkSums pts = (s, s0) :: x1 :: rest ∧ (∃ v, (e, v) ∈ x1 :: rest) ∧
      (∀ x ∈ x1 :: rest, x.1 ≤ e) ∧ ∀ p, fsum (fun k => decide (k ≤ p)) (chunkSums pts) = sumAt g c p := by
  obtain ⟨g1, g2, g3, g4⟩ := hg
  obtain ⟨b0, hb0⟩ := List.exists_mem_of_ne_nil g g1
  have hse : s < e := Nat.lt_of_le_of_lt (g3 b0 hb0).1 (Nat.lt_of_lt_of_le (hne b0 hb0) (g3 b0 hb0).2)
  have hstrict := chunkSums_strict pts hsorted
  obtain ⟨k1, k2⟩ := chunk_positions hperm
  have hin : ∀ x ∈ chunkSums pts, s ≤ x.1 ∧ x.1 ≤ e := by
    intro x hx
    obtain ⟨b, hb, hor⟩ := k1 x hx
    have h1 : s ≤ b.start ∧ b.stop ≤ e := g3 b hb
    have h2 := hne b hb
    omega
  obtain ⟨vs, hvs⟩ : ∃ v, (s, v) ∈ chunkSums pts := by
    obtain ⟨b, hb, h1, _⟩ := g4 s (Nat.le_refl _) hse
    exact Nat.le_antisymm h1 (g3 b hb).1 ▸ (k2 b hb).1
  obtain ⟨ve, hve⟩ : ∃ v, (e, v) ∈ chunkSums pts := by
    obtain ⟨b, hb, _, h2⟩ := g4 (e - 1) (Nat.le_sub_one_of_lt hse) (Nat.sub_one_lt (Nat.ne_of_gt (Nat.zero_lt_of_lt hse)))
    exact Nat.le_antisymm (g3 b hb).2 (Nat.le_of_pred_lt h2) ▸ (k2 b hb).2
  have hF : ∀ p, fsum (fun k => decide (k ≤ p)) (chunkSums pts) = sumAt g c p := fun p => by
    rw [chunkSums_fsum, fsum_perm _ hperm, fsum_breakpoints _ c g2 hne]
  cases hcs : chunkSums pts with
  | nil => rw [hcs] at hvs; cases hvs
  | cons x0 rest0 =>
  obtain ⟨p0, s0⟩ := x0
  rw [hcs] at hstrict hin hvs hve
  have hp := List.pairwise_cons.mp hstrict
  have hp0 : p0 = s := by
    rcases List.mem_cons.mp hvs with h | h
    · exact (Prod.mk.inj h).1.symm
    · exact Nat.le_antisymm (Nat.le_of_lt (hp.1 _ h)) (hin _ List.mem_cons_self).1
  subst hp0
  have hve' : (e, ve) ∈ rest0 := (List.mem_cons.mp hve).resolve_left (fun h => Nat.ne_of_gt hse (Prod.mk.inj h).1)
  cases rest0 with
  | nil => cases hve'
  | cons x1 rest => exact ⟨s0, x1, rest, rfl, ⟨ve, hve'⟩, fun x hx => (hin x (List.mem_cons_of_mem _ hx)).2, hcs ▸ hF⟩

theorem bedgraphGroup_ok (g : List BG) (c : Bytes) (s e : Nat) (hg : GroupOK BG.toRec g c s e)
    (hne : ∀ b ∈ g, b.start < b.stop) : ∃ o, bedgraphGroup g = .ok o ∧ Pointwise g o := by
  cases g with
  | nil => exact absurd rfl hg.ne
  | cons b0 t =>
  obtain ⟨s0, ⟨p1, s1⟩, rest, hcs, he, hmax, hF⟩ := group_chunks hg hne (isort_perm _ _)
    ((isort_sorted ptLe_total (breakpointsOf (b0 :: t))).imp (fun h => of_decide_eq_true h))
  have hstrict := chunkSums_strict _
    ((isort_sorted ptLe_total (breakpointsOf (b0 :: t))).imp (fun h => of_decide_eq_true h))
  obtain ⟨g1, g2, g3, g4⟩ := hg
  show ∃ o, sweepGroup b0.chrom _ = .ok o ∧ _
  rw [sweepGroup_eq, show b0.chrom = c from g2 b0 List.mem_cons_self, hcs]
  rw [hcs] at hstrict hF
  obtain ⟨r1, r2, r3, r4⟩ := sweep_result c s s0 p1 s1 rest e hstrict he hmax
  refine ⟨_, rfl, ?_⟩
  generalize (List.reverse _ : List BG) = L at r1 r2 r3 r4 ⊢
  have hc := fun x hx => (r1 x hx).1
  refine ⟨fun x hx => (r1 x hx).2.1, ?_, ?_, ?_, ?_⟩
  · exact r2.imp_of_mem (fun {x y} hx hy hxy =>
      before_of_stop ((hc x hx).trans (hc y hy).symm) (r1 x hx).2.1 hxy)
  · intro c' p
    constructor
    · rintro ⟨b, hb, bc, b1, b2⟩
      have : s ≤ b.start ∧ b.stop ≤ e := g3 b hb
      obtain ⟨x, hx, xm⟩ := (r3 p).mp ⟨Nat.le_trans this.1 b1, Nat.lt_of_lt_of_le b2 this.2⟩
      exact ⟨x, hx, (hc x hx).trans ((g2 b hb).symm.trans bc), xm⟩
    · rintro ⟨x, hx, xc, xm⟩
      obtain ⟨h1, h2⟩ := (r3 p).mpr ⟨x, hx, xm⟩
      obtain ⟨b, hb, bm⟩ := g4 p h1 h2
      exact ⟨b, hb, (g2 b hb).trans ((hc x hx).symm.trans xc), bm⟩
  · intro x hx p hp
    rw [(r1 x hx).2.2 p hp.1 hp.2, hc x hx]
    exact hF p
  · rintro x hx ⟨b, hb, _, _, b2⟩
    rw [hc x hx, ← hF]
    exact r4 x hx (Nat.ne_of_lt (Nat.lt_of_lt_of_le b2 (g3 b hb).2))

end BV.C08
