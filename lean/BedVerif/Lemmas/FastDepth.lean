import BedVerif.Lemmas.RLE
/-!
The maximal run-length encoding of the pointwise depth computed without enumerating positions, for EVERY list:
fusing the segments between the sorted endpoints of any step function yields its `RLEFrom` (`fuse_segs_spec`).
`fastDepth` counts the depth at each breakpoint directly (`O(n²)`), `fastDepth'` keeps a running count over the sorted
starts and stops (`O(n log n)`); `IsDepthRLE l runs ↔ runs = fastDepth' l`.
-/
namespace BV
variable {α : Type}

/-- put one segment `r = [r.start, r.stop)` of value `r.val` in front of an already fused run list:
segments of value 0 and empty segments are skipped, a segment that touches the first run and has its
value is merged into it -/
def pushRun (r : Iv Nat) (rs : List (Iv Nat)) : List (Iv Nat) :=
  if r.val = 0 ∨ r.stop ≤ r.start then rs
  else match rs with
    | [] => [r]
    | r' :: rs' =>
      if r.stop = r'.start ∧ r.val = r'.val then ⟨r.start, r'.stop, r.val⟩ :: rs' else r :: r' :: rs'

/-- fuse a list of consecutive segments, from the right (`List.foldr` is compiled to a loop over an array) -/
def fuseRuns (segs : List (Iv Nat)) : List (Iv Nat) := segs.foldr pushRun []

/-- the segments between consecutive depthBreaks, each carrying the value `d` of its left end -/
def segsOf (d : Nat → Nat) (bps : List Nat) : List (Iv Nat) :=
  (bps.zip bps.tail).map (fun pq => ⟨pq.1, pq.2, d pq.1⟩)

theorem segsOf_cons_cons (d : Nat → Nat) (a b : Nat) (t : List Nat) :
    segsOf d (a :: b :: t) = ⟨a, b, d a⟩ :: segsOf d (b :: t) := rfl

theorem pushRun_spec {f : Nat → Nat} {p q d : Nat} {rs : List (Iv Nat)} (hpq : p ≤ q)
    (hconst : ∀ x, p ≤ x → x < q → f x = d) (h : RLEFrom f q rs) :
    RLEFrom f p (pushRun ⟨p, q, d⟩ rs) := by
  unfold pushRun
  simp only
  split
  · rename_i hskip
    apply h.lower hpq
    intro x hx hxq
    rcases hskip with h0 | h0
    · rw [hconst x hx hxq, h0]
    · omega
  · rename_i hns
    have hd : 0 < d := by omega
    have hlt : p < q := by omega
    have hgap : ∀ x, p ≤ x → x < p → f x = 0 := fun x h1 h2 => absurd h2 (Nat.not_lt_of_le h1)
    cases rs with
    | nil => exact RLEFrom.cons (Nat.le_refl _) hlt hd hgap hconst (by rw [h q (Nat.le_refl _)]; omega) h
    | cons r' rs' =>
      obtain ⟨h1, h2, h3, h4, h5, h6, h7⟩ := h
      simp only
      split
      · -- the segment continues into `r'`
        rename_i hm
        refine RLEFrom.cons (Nat.le_refl _) (by omega) hd hgap (fun x hx1 hx2 => ?_) (hm.2 ▸ h6) h7
        by_cases hxq : x < q
        · exact hconst x hx1 hxq
        · rw [h5 x (by omega) hx2, hm.2]
      · rename_i hm
        refine RLEFrom.cons (Nat.le_refl _) hlt hd hgap hconst ?_ ⟨h1, h2, h3, h4, h5, h6, h7⟩
        by_cases hq : q = r'.start
        · rw [h5 q (by omega) (by omega)]
          exact fun hfd => hm ⟨hq, hfd.symm⟩
        · rw [h4 q (Nat.le_refl _) (by omega)]
          omega

/-- the generic correctness statement of the sweep: `E` is a set of positions outside which `f` does
not change, `a :: t` an ascending list containing every element of `E` above `a` -/
theorem fuse_segs_spec (f : Nat → Nat) (E : List Nat)
    (hstep : ∀ p x, p ≤ x → (∀ e ∈ E, ¬ (p < e ∧ e ≤ x)) → f x = f p)
    (hzero : ∀ x, (∀ e ∈ E, e ≤ x) → f x = 0) :
    ∀ (t : List Nat) (a : Nat), (a :: t).Pairwise (· ≤ ·) → (∀ e ∈ E, a < e → e ∈ t) →
      RLEFrom f a (fuseRuns (segsOf f (a :: t))) := by
  intro t
  induction t with
  | nil =>
    intro a _ hin x hx
    apply hzero
    intro e he
    by_cases hae : a < e
    · cases hin e he hae
    · omega
  | cons b t ih =>
    intro a hpw hin
    have hp := List.pairwise_cons.mp hpw
    have hp' := List.pairwise_cons.mp hp.2
    have hab : a ≤ b := hp.1 b List.mem_cons_self
    show RLEFrom f a (pushRun ⟨a, b, f a⟩ (fuseRuns (segsOf f (b :: t))))
    apply pushRun_spec hab
    · intro x hx1 hx2
      apply hstep a x hx1
      intro e he ⟨h1, h2⟩
      rcases List.mem_cons.mp (hin e he h1) with rfl | het
      · omega
      · have := hp'.1 e het; omega
    · apply ih b hp.2
      intro e he hbe
      rcases List.mem_cons.mp (hin e he (by omega)) with rfl | het
      · omega
      · exact het

def endpoints (l : List (Iv α)) : List Nat := l.flatMap fun iv => [iv.start, iv.stop]

theorem start_mem_endpoints {l : List (Iv α)} {iv : Iv α} (h : iv ∈ l) : iv.start ∈ endpoints l :=
  List.mem_flatMap.mpr ⟨iv, h, by simp⟩

theorem stop_mem_endpoints {l : List (Iv α)} {iv : Iv α} (h : iv ∈ l) : iv.stop ∈ endpoints l :=
  List.mem_flatMap.mpr ⟨iv, h, by simp⟩

theorem depthOf_step (l : List (Iv α)) (p x : Nat) (hpx : p ≤ x)
    (h : ∀ e ∈ endpoints l, ¬ (p < e ∧ e ≤ x)) : depthOf l x = depthOf l p := by
  unfold depthOf
  apply List.countP_congr
  intro iv hiv
  have h1 := h _ (start_mem_endpoints hiv)
  have h2 := h _ (stop_mem_endpoints hiv)
  rw [Iv.covers_iff, Iv.covers_iff]
  omega

theorem depthOf_beyond (l : List (Iv α)) (x : Nat) (h : ∀ e ∈ endpoints l, e ≤ x) : depthOf l x = 0 := by
  unfold depthOf
  rw [List.countP_eq_zero]
  intro iv hiv
  have := h _ (stop_mem_endpoints hiv)
  rw [Iv.covers_iff]
  omega

theorem depthOf_filter_nonempty (l : List (Iv α)) (p : Nat) :
    depthOf (l.filter (fun iv => iv.start < iv.stop)) p = depthOf l p := by
  unfold depthOf
  rw [List.countP_filter]
  apply List.countP_congr
  intro iv _
  simp only [Iv.covers, Bool.and_eq_true, decide_eq_true_eq]
  omega

/-- the depthBreaks: position 0 followed by all endpoints in ascending order (duplicates are kept;
they produce empty segments, which `pushRun` skips) -/
def depthBreaks (l : List (Iv α)) : List Nat := 0 :: (endpoints l).mergeSort (fun a b => decide (a ≤ b))

/-- THE maximal run-length encoding of the depth of `l`: drop the empty and inverted intervals, sort
the endpoints, evaluate the depth at each breakpoint, fuse. No position is enumerated; the depth at
a breakpoint is computed directly (`O(n)` each, `O(n²)` in all); see `fastDepth'` for `O(n log n)`. -/
def fastDepth (l : List (Iv α)) : List (Iv Nat) :=
  let l' := l.filter (fun iv => iv.start < iv.stop)
  fuseRuns (segsOf (depthOf l') (depthBreaks l'))

theorem sorted_mergeSort_nat (X : List Nat) : (X.mergeSort (fun a b => decide (a ≤ b))).Pairwise (· ≤ ·) := by
  have := List.pairwise_mergeSort (le := fun (a b : Nat) => decide (a ≤ b))
    (fun a b c hab hbc => by simp only [decide_eq_true_eq] at *; omega)
    (fun a b => by simp only [Bool.or_eq_true, decide_eq_true_eq]; omega) X
  exact this.imp (fun hab => by simpa using hab)

theorem depthBreaks_sorted (l : List (Iv α)) : (depthBreaks l).Pairwise (· ≤ ·) :=
  List.pairwise_cons.mpr ⟨fun _ _ => Nat.zero_le _, sorted_mergeSort_nat _⟩

theorem fuse_breaks_spec (l : List (Iv α)) :
    RLEFrom (depthOf l) 0 (fuseRuns (segsOf (depthOf l) (depthBreaks l))) := by
  apply fuse_segs_spec (depthOf l) (endpoints l) (depthOf_step l) (depthOf_beyond l) _ 0 (depthBreaks_sorted l)
  intro e he _
  exact (List.mergeSort_perm _ _).mem_iff.mpr he

theorem fastDepth_spec (l : List (Iv α)) : IsDepthRLE l (fastDepth l) := by
  apply isDepthRLE_of_rleFrom
  rw [← funext (depthOf_filter_nonempty l)]
  exact fuse_breaks_spec _

theorem isDepthRLE_iff_eq_fastDepth (l : List (Iv α)) (runs : List (Iv Nat)) :
    IsDepthRLE l runs ↔ runs = fastDepth l :=
  ⟨fun h => isDepthRLE_unique l _ _ h (fastDepth_spec l), fun h => h ▸ fastDepth_spec l⟩

/-- number of elements `≤ p` -/
def cle (X : List Nat) (p : Nat) : Nat := X.countP (fun s => decide (s ≤ p))

/-- drop the leading elements `≤ p`, adding their number to `n` -/
def dropLE (p : Nat) : List Nat → Nat → List Nat × Nat
  | [], n => ([], n)
  | s :: X, n => if s ≤ p then dropLE p X (n+1) else (s :: X, n)

/-- the dropped elements are `≤ p`, hence counted by every later query -/
theorem dropLE_count (p : Nat) : ∀ (X : List Nat) (n x : Nat), p ≤ x →
    n + cle X x = (dropLE p X n).2 + cle (dropLE p X n).1 x
  | [], n, x, _ => rfl
  | s :: X, n, x, hpx => by
    unfold dropLE
    split
    · rename_i hs
      rw [← dropLE_count p X (n+1) x hpx]
      have : decide (s ≤ x) = true := by simp; omega
      simp only [cle, List.countP_cons, this, if_true]
      omega
    · rfl

theorem dropLE_sorted (p : Nat) : ∀ (X : List Nat) (n : Nat), X.Pairwise (· ≤ ·) →
    (dropLE p X n).1.Pairwise (· ≤ ·) ∧ cle (dropLE p X n).1 p = 0
  | [], n, _ => ⟨List.Pairwise.nil, rfl⟩
  | s :: X, n, h => by
    have hp := List.pairwise_cons.mp h
    unfold dropLE
    split
    · exact dropLE_sorted p X (n+1) hp.2
    · rename_i hs
      refine ⟨h, ?_⟩
      unfold cle
      rw [List.countP_eq_zero]
      intro y hy
      rcases List.mem_cons.mp hy with rfl | hy
      · simpa using hs
      · have := hp.1 y hy
        simp only [decide_eq_true_eq]; omega

/-- one step of a running count: sortedness is kept, the count is the total at `a`, and the rest still accounts for `SF` -/
theorem dropLE_step {SF S : List Nat} {nS a : Nat} (hS : S.Pairwise (· ≤ ·)) (h : ∀ x, a ≤ x → cle SF x = nS + cle S x) :
    (dropLE a S nS).1.Pairwise (· ≤ ·) ∧ (dropLE a S nS).2 = cle SF a ∧
      ∀ x, a ≤ x → cle SF x = (dropLE a S nS).2 + cle (dropLE a S nS).1 x := by
  obtain ⟨sS, zS⟩ := dropLE_sorted a S nS hS
  refine ⟨sS, ?_, fun x hx => by rw [h x hx, dropLE_count a S nS x hx]⟩
  rw [h a (Nat.le_refl _), dropLE_count a S nS a (Nat.le_refl _), zS]
  rfl

/-- the segments between consecutive breakpoints with their depths, by a single sweep, accumulated in reverse
(tail recursive): `S`, `E` are the not yet consumed sorted starts and stops, `nS`, `nE` the numbers already consumed -/
def sweepSegsRev : List (Iv Nat) → List Nat → List Nat → List Nat → Nat → Nat → List (Iv Nat)
  | acc, p :: q :: ps, S, E, nS, nE =>
    let dS := dropLE p S nS
    let dE := dropLE p E nE
    sweepSegsRev (⟨p, q, dS.2 - dE.2⟩ :: acc) (q :: ps) dS.1 dE.1 dS.2 dE.2
  | acc, [_], _, _, _, _ => acc
  | acc, [], _, _, _, _ => acc

/-- the sweep computes the segments of any `f` that is the difference of the two counts -/
theorem sweepSegs_eq (f : Nat → Nat) (SF EF : List Nat) (hf : ∀ p, f p = cle SF p - cle EF p) :
    ∀ (t : List Nat) (a : Nat) (acc : List (Iv Nat)) (S E : List Nat) (nS nE : Nat), (a :: t).Pairwise (· ≤ ·) →
      S.Pairwise (· ≤ ·) → E.Pairwise (· ≤ ·) →
      (∀ x, a ≤ x → cle SF x = nS + cle S x) → (∀ x, a ≤ x → cle EF x = nE + cle E x) →
      sweepSegsRev acc (a :: t) S E nS nE = (segsOf f (a :: t)).reverse ++ acc := by
  intro t
  induction t with
  | nil => intros; rfl
  | cons b t ih =>
    intro a acc S E nS nE hpw hS hE iS iE
    have hp := List.pairwise_cons.mp hpw
    have hab : a ≤ b := hp.1 b List.mem_cons_self
    obtain ⟨sS, vS, jS⟩ := dropLE_step hS iS
    obtain ⟨sE, vE, jE⟩ := dropLE_step hE iE
    rw [sweepSegsRev, segsOf_cons_cons, List.reverse_cons, List.append_assoc, List.singleton_append, hf a, ← vS, ← vE]
    exact ih b _ _ _ _ _ hp.2 sS sE (fun x hx => jS x (Nat.le_trans hab hx)) (fun x hx => jE x (Nat.le_trans hab hx))

theorem cle_cons (s : Nat) (X : List Nat) (p : Nat) : cle (s :: X) p = cle X p + if s ≤ p then 1 else 0 := by
  simp only [cle, List.countP_cons, decide_eq_true_eq]

theorem depthOf_cons (iv : Iv α) (t : List (Iv α)) (p : Nat) :
    depthOf (iv :: t) p = depthOf t p + if iv.start ≤ p ∧ p < iv.stop then 1 else 0 := by
  simp only [depthOf, List.countP_cons, Iv.covers, Bool.and_eq_true, decide_eq_true_eq]

/-- depth = (number of starts `≤ p`) − (number of stops `≤ p`), for intervals with `start ≤ stop` -/
theorem depthOf_eq_counts (l : List (Iv α)) (hl : ∀ iv ∈ l, iv.start ≤ iv.stop) (p : Nat) :
    cle (l.map (·.start)) p = depthOf l p + cle (l.map (·.stop)) p := by
  induction l with
  | nil => rfl
  | cons iv t ih =>
    have ih' := ih (fun x hx => hl x (List.mem_cons_of_mem _ hx))
    have hiv := hl iv List.mem_cons_self
    rw [List.map_cons, List.map_cons, cle_cons, cle_cons, depthOf_cons, ih']
    by_cases h1 : iv.start ≤ p
    · rcases Nat.lt_or_ge p iv.stop with h2 | h2
      · have h3 : ¬ iv.stop ≤ p := by omega
        simp only [h1, h2, h3, and_self, if_true, if_false]; omega
      · have h3 : ¬ p < iv.stop := by omega
        simp only [h1, h2, h3, and_false, if_true, if_false]; omega
    · have h3 : ¬ iv.stop ≤ p := by omega
      simp only [h1, h3, false_and, if_false]; omega

theorem cle_mergeSort (X : List Nat) (p : Nat) : cle (X.mergeSort (fun a b => decide (a ≤ b))) p = cle X p :=
  (List.mergeSort_perm X _).countP_eq _

/-- THE maximal run-length encoding of the depth of `l` in `O(n log n)`: three merge sorts (endpoints,
starts, stops), one linear sweep giving the depth at every breakpoint as (starts passed) − (stops
passed), one linear fusing pass. Every loop is tail recursive or a core `List` function compiled to one. -/
def fastDepth' (l : List (Iv α)) : List (Iv Nat) :=
  let l' := l.filter (fun iv => iv.start < iv.stop)
  let S := (l'.map (·.start)).mergeSort (fun a b => decide (a ≤ b))
  let E := (l'.map (·.stop)).mergeSort (fun a b => decide (a ≤ b))
  (sweepSegsRev [] (depthBreaks l') S E 0 0).foldl (fun acc r => pushRun r acc) []

theorem fastDepth'_eq (l : List (Iv α)) : fastDepth' l = fastDepth l := by
  unfold fastDepth' fastDepth
  simp only
  generalize hl' : l.filter (fun iv => iv.start < iv.stop) = l'
  have hne : ∀ iv ∈ l', iv.start ≤ iv.stop := by
    intro iv hiv
    rw [← hl', List.mem_filter] at hiv
    have := hiv.2
    simp only [decide_eq_true_eq] at this
    omega
  refine (congrArg (List.foldl (fun acc r => pushRun r acc) [])
    (sweepSegs_eq (depthOf l') _ _ ?_ _ 0 [] _ _ 0 0 (depthBreaks_sorted l') (sorted_mergeSort_nat _)
      (sorted_mergeSort_nat _) (fun x _ => (Nat.zero_add _).symm) (fun x _ => (Nat.zero_add _).symm))).trans ?_
  · intro p
    rw [cle_mergeSort, cle_mergeSort, depthOf_eq_counts l' hne p]
    omega
  · rw [List.append_nil, List.foldl_reverse]
    rfl

theorem fastDepth'_spec (l : List (Iv α)) : IsDepthRLE l (fastDepth' l) := by
  rw [fastDepth'_eq]; exact fastDepth_spec l

theorem isDepthRLE_iff_eq_fastDepth' (l : List (Iv α)) (runs : List (Iv Nat)) :
    IsDepthRLE l runs ↔ runs = fastDepth' l := by
  rw [fastDepth'_eq]; exact isDepthRLE_iff_eq_fastDepth l runs

/-! the compiled definitions on the fixture `test_depth_harder` of the crate (the values are proved in `Props/C20Fast.lean`) -/

#guard fastDepth' [(⟨1,10,()⟩ : Iv Unit), ⟨2,5,()⟩, ⟨3,8,()⟩, ⟨3,8,()⟩, ⟨3,8,()⟩, ⟨5,8,()⟩, ⟨9,11,()⟩, ⟨15,20,()⟩]
    = [⟨1,2,1⟩, ⟨2,3,2⟩, ⟨3,8,5⟩, ⟨8,9,1⟩, ⟨9,10,2⟩, ⟨10,11,1⟩, ⟨15,20,1⟩]
#guard fastDepth [(⟨1,10,()⟩ : Iv Unit), ⟨2,5,()⟩, ⟨3,8,()⟩, ⟨3,8,()⟩, ⟨3,8,()⟩, ⟨5,8,()⟩, ⟨9,11,()⟩, ⟨15,20,()⟩]
    = [⟨1,2,1⟩, ⟨2,3,2⟩, ⟨3,8,5⟩, ⟨8,9,1⟩, ⟨9,10,2⟩, ⟨10,11,1⟩, ⟨15,20,1⟩]

#print axioms fuse_segs_spec
#print axioms fastDepth_spec
#print axioms isDepthRLE_iff_eq_fastDepth
#print axioms sweepSegs_eq
#print axioms fastDepth'_eq
#print axioms fastDepth'_spec
#print axioms isDepthRLE_iff_eq_fastDepth'
end BV
