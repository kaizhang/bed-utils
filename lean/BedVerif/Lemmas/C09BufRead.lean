import BedVerif.Model.BufRead
import BedVerif.Lemmas.C09Le
/-!
The chunk read through `BufReader` (any capacity, any initial buffer content) over a storage with any
fault plan. Everything is said about the bytes a reader has still to deliver (`BufR.strm`), so that one
description of a `read` call (`ReadOut`) fits the storage and the `BufReader` alike.
-/
namespace BV

/-- One `read` call for up to `n > 0` bytes, seen from outside: `strm` are the bytes not yet delivered,
`plan` the faults the storage still has in store. The call fails hard, or is interrupted and delivers
nothing, or delivers the next bytes `t`, at most `n` of them and none only at the end of the data. -/
def ReadOut (strm : Bytes) (plan : List RFault) (n : Nat) (res : RRes) (strm' : Bytes) (plan' : List RFault) : Prop :=
  plan' <:+ plan ∧
  ((res = .err ∧ RFault.fail ∈ plan) ∨
   (res = .interrupted ∧ strm' = strm ∧ plan'.length < plan.length) ∨
   (∃ t, res = .data t ∧ strm = t ++ strm' ∧ t.length ≤ n ∧ (t = [] → strm = [])))

theorem ReadOut.take {rest : Bytes} {p p' : List RFault} {n m : Nat} (hp : p' <:+ p) (h1 : 1 ≤ m) (hm : m ≤ n) :
    ReadOut rest p n (.data (rest.take m)) (rest.drop m) p' :=
  ⟨hp, .inr (.inr ⟨_, rfl, (List.take_append_drop ..).symm, Nat.le_trans (List.length_take_le ..) hm,
    fun h => (List.take_eq_nil_iff.mp h).resolve_left (Nat.ne_of_gt h1)⟩)⟩

theorem RStore.read_spec (s : RStore) (n : Nat) (hn : 0 < n) :
    ReadOut s.rest s.plan n (s.read n).1 (s.read n).2.rest (s.read n).2.plan := by
  obtain ⟨rest, plan⟩ := s
  match plan with
  | [] => exact .take (List.suffix_refl _) hn (Nat.le_refl _)
  | .fail :: p => exact ⟨List.suffix_cons _ _, .inl ⟨rfl, List.mem_cons_self⟩⟩
  | .interrupted :: p => exact ⟨List.suffix_cons _ _, .inr (.inl ⟨rfl, rfl, Nat.lt_succ_self _⟩)⟩
  | .give k :: p =>
    exact .take (List.suffix_cons _ _) (Nat.le_min.mpr ⟨Nat.le_max_right k 1, hn⟩) (Nat.min_le_right ..)

/-- the bytes still to be delivered: buffered, then unread in the storage -/
def BufR.strm (r : BufR) : Bytes := r.buf ++ r.inner.rest

theorem BufR.read_bypass {cap n : Nat} (s : RStore) (h : cap ≤ n) :
    BufR.read ⟨cap, [], s⟩ n = ((s.read n).1, ⟨cap, [], (s.read n).2⟩) :=
  if_pos (by simpa using h)

theorem BufR.read_fill {cap n : Nat} (s : RStore) (h : n < cap) :
    BufR.read ⟨cap, [], s⟩ n = match s.read cap with
      | (.data b, s') => (.data (b.take n), ⟨cap, b.drop n, s'⟩)
      | (.interrupted, s') => (.interrupted, ⟨cap, [], s'⟩)
      | (.err, s') => (.err, ⟨cap, [], s'⟩) := by
  unfold BufR.read
  rw [if_neg (by simpa using h)]
  rfl

theorem BufR.read_buffered (cap : Nat) (a : UInt8) (buf : Bytes) (s : RStore) (n : Nat) :
    BufR.read ⟨cap, a :: buf, s⟩ n = (.data ((a :: buf).take n), ⟨cap, (a :: buf).drop n, s⟩) := rfl

theorem BufR.read_spec (r : BufR) (n : Nat) (hn : 0 < n) :
    ReadOut r.strm r.inner.plan n (r.read n).1 (r.read n).2.strm (r.read n).2.inner.plan := by
  obtain ⟨cap, buf, s⟩ := r
  cases buf with
  | nil =>
    by_cases hb : cap ≤ n
    · rw [BufR.read_bypass s hb]
      exact s.read_spec n hn
    · have hb : n < cap := Nat.lt_of_not_le hb
      obtain ⟨suf, h⟩ := s.read_spec cap (Nat.lt_trans hn hb)
      rw [BufR.read_fill s hb]
      generalize s.read cap = q at suf h ⊢
      obtain ⟨res, s'⟩ := q
      rcases h with ⟨rfl, hf⟩ | ⟨rfl, hs, hl⟩ | ⟨t, rfl, hs, _, h0⟩
      · exact ⟨suf, .inl ⟨rfl, hf⟩⟩
      · exact ⟨suf, .inr (.inl ⟨rfl, hs, hl⟩)⟩
      · refine ⟨suf, .inr (.inr ⟨t.take n, rfl, ?_, List.length_take_le .., fun h => ?_⟩)⟩
        · show s.rest = t.take n ++ (t.drop n ++ s'.rest)
          rw [hs, ← List.append_assoc, List.take_append_drop]
        · exact h0 ((List.take_eq_nil_iff.mp h).resolve_left (Nat.ne_of_gt hn))
  | cons a buf =>
    rw [BufR.read_buffered]
    refine ⟨List.suffix_refl _, .inr (.inr ⟨_, rfl, ?_, List.length_take_le .., fun h => ?_⟩)⟩
    · show a :: buf ++ s.rest = (a :: buf).take n ++ ((a :: buf).drop n ++ s.rest)
      rw [← List.append_assoc, List.take_append_drop]
    · cases (List.take_eq_nil_iff.mp h).resolve_left (Nat.ne_of_gt hn)

/-- `read_exact` for `n` bytes, seen from outside: a hard error that the plan holds, or exactly the next
`n` bytes, or `UnexpectedEof` because fewer than `n` bytes are left. -/
def ExactOut (r : BufR) (n : Nat) (acc : Bytes) (q : ExactRes × BufR) : Prop :=
  q.2.inner.plan <:+ r.inner.plan ∧
  ((q.1 = .err ∧ RFault.fail ∈ r.inner.plan) ∨
   (n ≤ r.strm.length ∧ q.1 = .ok (acc ++ r.strm.take n) ∧ q.2.strm = r.strm.drop n) ∨
   (r.strm.length < n ∧ q.1 = .eof))

theorem ExactOut.step {r r' : BufR} {n : Nat} {acc t : Bytes} {q : ExactRes × BufR}
    (ht : t.length ≤ n) (hstrm : r.strm = t ++ r'.strm) (hplan : r'.inner.plan <:+ r.inner.plan)
    (h : ExactOut r' (n - t.length) (acc ++ t) q) : ExactOut r n acc q := by
  obtain ⟨h1, h2⟩ := h
  refine ⟨h1.trans hplan, ?_⟩
  rw [hstrm, List.length_append, List.take_append, List.drop_append, List.take_of_length_le ht,
    List.drop_of_length_le ht, ← List.append_assoc]
  rcases h2 with ⟨a, b⟩ | ⟨hn, a, b⟩ | ⟨hn, a⟩
  · exact .inl ⟨a, hplan.subset b⟩
  · exact .inr (.inl ⟨Nat.sub_le_iff_le_add'.mp hn, a, b⟩)
  · exact .inr (.inr ⟨Nat.lt_sub_iff_add_lt'.mp hn, a⟩)

/-- what bounds the `read_exact` loops: the bytes still wanted plus the plan entries left; a round that
does not end the loop delivers a byte or uses up a plan entry -/
theorem readExact_fuel_step {n n' l l' fuel : Nat} (hn : n' ≤ n) (hl : l' ≤ l) (h : n' < n ∨ l' < l)
    (hf : n + l < fuel + 1) : n' + l' < fuel := by
  omega

theorem BufR.readExactLoop_spec : ∀ (fuel : Nat) (r : BufR) (n : Nat) (acc : Bytes),
    n + r.inner.plan.length < fuel → ExactOut r n acc (BufR.readExactLoop fuel r n acc) := by
  intro fuel
  induction fuel with
  | zero => intro r n acc h; exact absurd h (Nat.not_lt_zero _)
  | succ fuel ih =>
    intro r n acc hf
    by_cases h0 : n = 0
    · subst h0
      exact ⟨List.suffix_refl _, .inr (.inl ⟨Nat.zero_le _, by rw [List.take_zero, List.append_nil]; rfl, rfl⟩)⟩
    · obtain ⟨suf, h⟩ := BufR.read_spec r n (Nat.pos_of_ne_zero h0)
      unfold BufR.readExactLoop
      simp only [h0, if_false]
      generalize r.read n = q at suf h
      obtain ⟨res, r'⟩ := q
      simp only at suf h
      have := suf.length_le
      rcases h with ⟨rfl, b⟩ | ⟨rfl, b, c⟩ | ⟨t, rfl, b, ht, ht0⟩
      · exact ⟨suf, .inl ⟨rfl, b⟩⟩
      · refine ExactOut.step (t := []) (Nat.zero_le n) b.symm suf ?_
        rw [List.append_nil]
        exact ih r' n acc (readExact_fuel_step (Nat.le_refl n) this (.inr c) hf)
      · simp only
        split
        · rename_i he
          refine ⟨suf, .inr (.inr ⟨?_, rfl⟩)⟩
          rw [ht0 (List.isEmpty_iff.mp he)]
          exact Nat.pos_of_ne_zero h0
        · rename_i he
          have ht0 : 0 < t.length := List.length_pos_iff.mpr fun h => he (List.isEmpty_iff.mpr h)
          exact ExactOut.step ht b suf (ih r' _ _ (readExact_fuel_step (Nat.sub_le ..) this
            (.inl (Nat.sub_lt (Nat.pos_of_ne_zero h0) ht0)) hf))

theorem BufR.readExact_spec (fuel : Nat) (r : BufR) (n : Nat) (hf : n + r.inner.plan.length < fuel) :
    ExactOut r n [] (r.readExact fuel n) := by
  unfold BufR.readExact
  split
  · rename_i h
    refine ⟨List.suffix_refl _, .inr (.inl ⟨?_, ?_, ?_⟩)⟩
    · show n ≤ (r.buf ++ r.inner.rest).length
      rw [List.length_append]
      exact Nat.le_trans h (Nat.le_add_right ..)
    · simp only [BufR.strm, List.nil_append, List.take_append_of_le_length h]
    · simp only [BufR.strm, List.drop_append_of_le_length h]
  · exact BufR.readExactLoop_spec fuel r n [] hf

theorem BufR.readExact_block {r : BufR} {b rest : Bytes} {n fuel : Nat} (hr : r.strm = b ++ rest)
    (hn : b.length = n) (hf : n + r.inner.plan.length < fuel) :
    (r.readExact fuel n).2.inner.plan <:+ r.inner.plan ∧
    (((r.readExact fuel n).1 = .err ∧ RFault.fail ∈ r.inner.plan) ∨
     ((r.readExact fuel n).1 = .ok b ∧ (r.readExact fuel n).2.strm = rest)) := by
  obtain ⟨suf, h⟩ := r.readExact_spec fuel n hf
  rw [hr, List.take_left' hn, List.drop_left' hn, List.length_append, List.nil_append] at h
  refine ⟨suf, h.imp id fun h => ?_⟩
  rcases h with h | h
  · exact h.2
  · exact absurd h.1 (Nat.not_lt.mpr (hn ▸ Nat.le_add_right ..))

theorem chunkNextBuf_ok {r r1 r2 : BufR} {hdr p : Bytes} {n : Nat}
    (h1 : r.readExact (8 + r.inner.plan.length + 2) 8 = (.ok hdr, r1)) (hn : unle64 hdr = n)
    (h2 : r1.readExact (n + r1.inner.plan.length + 2) n = (.ok p, r2)) :
    chunkNextBuf r = (some (.ok p), r2) := by
  subst hn
  unfold chunkNextBuf
  rw [h1]
  simp only
  rw [h2]

theorem chunkNextBuf_err1 {r r1 : BufR}
    (h1 : r.readExact (8 + r.inner.plan.length + 2) 8 = (.err, r1)) :
    chunkNextBuf r = (some .err, r1) := by
  unfold chunkNextBuf
  rw [h1]

theorem chunkNextBuf_err2 {r r1 r2 : BufR} {hdr : Bytes} {n : Nat}
    (h1 : r.readExact (8 + r.inner.plan.length + 2) 8 = (.ok hdr, r1)) (hn : unle64 hdr = n)
    (h2 : r1.readExact (n + r1.inner.plan.length + 2) n = (.err, r2)) :
    chunkNextBuf r = (some .err, r2) := by
  subst hn
  unfold chunkNextBuf
  rw [h1]
  simp only
  rw [h2]

theorem chunkNextBuf_nil (r : BufR) (hr : r.strm = []) :
    (chunkNextBuf r).1 = none ∨ ((chunkNextBuf r).1 = some .err ∧ RFault.fail ∈ r.inner.plan) := by
  obtain ⟨_, h⟩ := BufR.readExact_spec (8 + r.inner.plan.length + 2) r 8
    (Nat.lt_add_of_pos_right Nat.two_pos)
  unfold chunkNextBuf
  generalize r.readExact (8 + r.inner.plan.length + 2) 8 = q at h ⊢
  obtain ⟨q, r1⟩ := q
  rw [hr] at h
  rcases h with ⟨rfl, h⟩ | ⟨h, _⟩ | ⟨_, rfl⟩
  · exact .inr ⟨rfl, h⟩
  · cases h
  · exact .inl rfl

theorem chunkNextBuf_cons (p : Bytes) (ps : List Bytes) (r : BufR) (hr : r.strm = frames (p :: ps))
    (hp : p.length < 2^64) :
    (∃ r', chunkNextBuf r = (some (.ok p), r') ∧ r'.strm = frames ps ∧ r'.inner.plan <:+ r.inner.plan) ∨
    ((chunkNextBuf r).1 = some .err ∧ RFault.fail ∈ r.inner.plan) := by
  rw [frames_cons] at hr
  obtain ⟨suf1, h1⟩ := BufR.readExact_block (fuel := 8 + r.inner.plan.length + 2) hr
    (C09_le64_length _) (Nat.lt_add_of_pos_right Nat.two_pos)
  cases e1 : r.readExact (8 + r.inner.plan.length + 2) 8 with
  | mk q1 r1 =>
  rw [e1] at h1 suf1
  rcases h1 with ⟨rfl, hf⟩ | ⟨rfl, hr1⟩
  · exact .inr ⟨by rw [chunkNextBuf_err1 e1], hf⟩
  · obtain ⟨suf2, h2⟩ := BufR.readExact_block (fuel := p.length + r1.inner.plan.length + 2) hr1
      rfl (Nat.lt_add_of_pos_right Nat.two_pos)
    cases e2 : r1.readExact (p.length + r1.inner.plan.length + 2) p.length with
    | mk q2 r2 =>
    rw [e2] at h2 suf2
    rcases h2 with ⟨rfl, hf⟩ | ⟨rfl, hr2⟩
    · exact .inr ⟨by rw [chunkNextBuf_err2 e1 (C09_unle64_le64 _ hp) e2], suf1.subset hf⟩
    · exact .inl ⟨r2, chunkNextBuf_ok e1 (C09_unle64_le64 _ hp) e2, hr2, suf2.trans suf1⟩

theorem chunkItemsBuf_none {r : BufR} (n : Nat) (h : (chunkNextBuf r).1 = none) : chunkItemsBuf (n+1) r = [] := by
  unfold chunkItemsBuf
  cases e : chunkNextBuf r with
  | mk a b => rw [e] at h; simp only at h; subst h; rfl

theorem chunkItemsBuf_err {r : BufR} (n : Nat) (h : (chunkNextBuf r).1 = some .err) :
    chunkItemsBuf (n+1) r = [.err] := by
  unfold chunkItemsBuf
  cases e : chunkNextBuf r with
  | mk a b => rw [e] at h; simp only at h; subst h; rfl

theorem chunkItemsBuf_step {r r' : BufR} {p : Bytes} (n : Nat) (h : chunkNextBuf r = (some (.ok p), r')) :
    chunkItemsBuf (n+1) r = .ok p :: chunkItemsBuf n r' := by
  rw [chunkItemsBuf, h]

theorem chunkItemsBuf_spec : ∀ (ps : List Bytes) (r : BufR), r.strm = frames ps →
    (∀ p ∈ ps, p.length < 2^64) →
    chunkItemsBuf (ps.length + 1) r = ps.map .ok ∨
    (RFault.fail ∈ r.inner.plan ∧
      ∃ k, k ≤ ps.length ∧ chunkItemsBuf (ps.length + 1) r = (ps.take k).map .ok ++ [.err]) := by
  intro ps
  induction ps with
  | nil =>
    intro r hr _
    rcases chunkNextBuf_nil r hr with h | ⟨h, hf⟩
    · exact .inl (chunkItemsBuf_none _ h)
    · exact .inr ⟨hf, 0, Nat.le_refl _, chunkItemsBuf_err _ h⟩
  | cons p ps ih =>
    intro r hr hp
    rcases chunkNextBuf_cons p ps r hr (hp p List.mem_cons_self) with ⟨r', h, hr', suf⟩ | ⟨h, hf⟩
    · rw [List.length_cons, chunkItemsBuf_step _ h]
      rcases ih r' hr' (fun q hq => hp q (List.mem_cons_of_mem _ hq)) with h' | ⟨hf, k, hk, h'⟩
      · exact .inl (by rw [h', List.map_cons])
      · exact .inr ⟨suf.subset hf, k + 1, Nat.succ_le_succ hk, by rw [h', List.take_succ_cons, List.map_cons, List.cons_append]⟩
    · exact .inr ⟨hf, 0, Nat.zero_le _, chunkItemsBuf_err _ h⟩

theorem chunkItemsBuf_fail_first (cap : Nat) (data : Bytes) (plan : List RFault) (n : Nat) :
    chunkItemsBuf (n + 1) ⟨cap, [], ⟨data, .fail :: plan⟩⟩ = [.err] := by
  have e : ∀ m, BufR.read ⟨cap, [], ⟨data, .fail :: plan⟩⟩ m = (.err, ⟨cap, [], ⟨data, plan⟩⟩) := by
    intro m
    by_cases hb : cap ≤ m
    · rw [BufR.read_bypass _ hb]; rfl
    · rw [BufR.read_fill _ (Nat.lt_of_not_le hb)]; rfl
  refine chunkItemsBuf_err _ (congrArg Prod.fst (chunkNextBuf_err1 (r1 := ⟨cap, [], ⟨data, plan⟩⟩) ?_))
  show BufR.readExactLoop (8 + plan.length + 1 + 1 + 1) _ 8 [] = _
  rw [BufR.readExactLoop, e]
  rfl

end BV
