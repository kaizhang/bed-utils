import BedVerif.Props.C07
import BedVerif.Props.C08
import BedVerif.Props.C14
import BedVerif.Props.C13
/-! Coverage lemmas: agreement at the breakpoints is agreement everywhere. -/
namespace BV

theorem Rec.cov_iff (r : Rec) (c : Bytes) (p : Nat) :
    r.cov c p = true ↔ r.chrom = c ∧ r.start ≤ p ∧ p < r.stop := by
  simp [Rec.cov, Rec.memB]

def IsBreak (zs : List Rec) (c : Bytes) (p : Nat) : Prop :=
  ∃ r ∈ zs, r.chrom = c ∧ (r.start = p ∨ r.stop = p)

theorem mem_recPoints_of_break {zs : List Rec} {c : Bytes} {p : Nat} (h : IsBreak zs c p) :
    (c, p) ∈ recPoints zs := by
  obtain ⟨r, hr, hc, hp⟩ := h
  unfold recPoints
  rw [List.mem_flatMap]
  refine ⟨r, hr, ?_⟩
  subst hc
  rcases hp with hp | hp <;> subst hp <;> simp

theorem Rec.cov_pred (r : Rec) (c : Bytes) (p : Nat)
    (h : ¬ (r.chrom = c ∧ (r.start = p + 1 ∨ r.stop = p + 1))) :
    r.cov c (p + 1) = r.cov c p := by
  rw [Bool.eq_iff_iff, Rec.cov_iff, Rec.cov_iff]
  constructor
  · rintro ⟨hc, h1, h2⟩
    refine ⟨hc, ?_, by omega⟩
    have : ¬ (r.start = p + 1) := fun e => h ⟨hc, Or.inl e⟩
    omega
  · rintro ⟨hc, h1, h2⟩
    refine ⟨hc, by omega, ?_⟩
    have : ¬ (r.stop = p + 1) := fun e => h ⟨hc, Or.inr e⟩
    omega

theorem coveredByB_pred (zs : List Rec) (c : Bytes) (p : Nat) (h : ¬ IsBreak zs c (p + 1)) :
    coveredByB zs c (p + 1) = coveredByB zs c p := by
  unfold coveredByB
  induction zs with
  | nil => rfl
  | cons z zs ih =>
    simp only [List.any_cons]
    rw [ih (fun ⟨r, hr, hh⟩ => h ⟨r, List.mem_cons_of_mem _ hr, hh⟩),
      Rec.cov_pred z c p (fun hh => h ⟨z, List.mem_cons_self, hh⟩)]

theorem coveredByB_zero (zs : List Rec) (c : Bytes) (h : ¬ IsBreak zs c 0) :
    coveredByB zs c 0 = false := by
  rw [coveredByB, List.any_eq_false]
  intro r hr hcov
  obtain ⟨hc, h1, _⟩ := (Rec.cov_iff r c 0).mp hcov
  exact h ⟨r, hr, hc, Or.inl (Nat.le_zero.mp h1)⟩

theorem coveredByB_iff (xs : List Rec) (c : Bytes) (p : Nat) :
    coveredByB xs c p = true ↔ coveredBy xs c p := by
  unfold coveredByB coveredBy Rec.mem
  rw [List.any_eq_true]
  constructor
  · rintro ⟨r, hr, hc⟩
    rw [Rec.cov_iff] at hc
    exact ⟨r, hr, hc⟩
  · rintro ⟨r, hr, hc⟩
    exact ⟨r, hr, (Rec.cov_iff r c p).mpr hc⟩

theorem coveredByB_map_iff (xs : List BG) (c : Bytes) (p : Nat) :
    coveredByB (xs.map BG.toRec) c p = true ↔ coveredByBG xs c p := by
  unfold coveredByB coveredByBG Rec.mem
  rw [List.any_eq_true]
  constructor
  · rintro ⟨r, hr, hc⟩
    rw [List.mem_map] at hr
    obtain ⟨b, hb, rfl⟩ := hr
    rw [Rec.cov_iff] at hc
    exact ⟨b, hb, hc⟩
  · rintro ⟨b, hb, hc⟩
    exact ⟨b.toRec, List.mem_map_of_mem hb, (Rec.cov_iff b.toRec c p).mpr hc⟩

theorem sortedRecsB_sound (xs : List Rec) (h : sortedRecsB xs = true) : SortedRecs xs := by
  simp only [sortedRecsB, List.all_eq_true, forall_mem_zip_drop_one, bne_iff_ne, ne_eq] at h
  exact pairwise_of_adjacent C13_compare_trans h

theorem sumAtB_eq_sumAt (xs : List BG) (c : Bytes) (p : Nat) : sumAtB xs c p = sumAt xs c p := by
  unfold sumAtB sumAt
  congr 2
  apply List.filter_congr
  intro b _
  rw [Bool.eq_iff_iff, Rec.cov_iff, decide_eq_true_iff]
  simp [Rec.mem, BG.toRec]

theorem sumAtB_pred (xs : List BG) (c : Bytes) (p : Nat) (h : ¬ IsBreak (xs.map BG.toRec) c (p + 1)) :
    sumAtB xs c (p + 1) = sumAtB xs c p := by
  unfold sumAtB
  congr 1
  congr 1
  apply List.filter_congr
  intro b hb
  apply Rec.cov_pred
  intro hh
  exact h ⟨b.toRec, List.mem_map_of_mem hb, hh⟩

end BV
