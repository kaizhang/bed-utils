import BedVerif.Lemmas.LapperFind
/-! the carried cursor of `seek`. -/
namespace BV
variable {α : Type}

def Below (l : Array (Iv α)) (c bound : Nat) : Prop := ∀ iv ∈ l.toList.take c, iv.start < bound

theorem Below.zero (l : Array (Iv α)) (bound : Nat) : Below l 0 bound := fun _ h => nomatch h

theorem Below.mono {l : Array (Iv α)} {c b b' : Nat} (h : Below l c b) (hb : b ≤ b') : Below l c b' :=
  fun iv hiv => Nat.lt_of_lt_of_le (h iv hiv) hb

theorem advance_spec (l : Array (Iv α)) (hs : SortedStart l.toList) (bound : Nat) :
    ∀ fuel c, Below l c bound → Below l (advance l bound fuel c) bound := by
  intro fuel
  induction fuel with
  | zero => exact fun c h => h
  | succ n ih =>
    intro c h
    simp only [advance]
    by_cases hlt : c + 1 < l.size
    · simp only [if_pos hlt, Array.getElem?_eq_getElem hlt]
      by_cases hb : l[c + 1].start < bound
      · rw [if_pos hb]
        -- once `l[c+1]` starts below the bound, so does everything before it
        refine ih _ fun iv hiv => Nat.lt_of_le_of_lt (hs.rel_of_mem_take_of_mem_drop hiv ?_) hb
        exact List.mem_drop_iff_getElem.mpr ⟨0, by simpa using hlt, rfl⟩
      · rw [if_neg hb]; exact h
    · rw [if_neg hlt]; exact h

theorem seek_step (s : Lapper α)
    (hsorted : SortedStart s.intervals.toList)
    (hmax : ∀ iv ∈ s.intervals.toList, iv.len ≤ s.maxLen)
    (qs qe c prevBound : Nat) (hinv : Below s.intervals c prevBound) (hmono : prevBound ≤ qs - s.maxLen) :
    (s.seek qs qe c).1 = s.intervals.toList.filter (·.ov qs qe) ∧
    Below s.intervals (s.seek qs qe c).2 (qs - s.maxLen) := by
  have hb := advance_spec s.intervals hsorted (qs - s.maxLen) s.intervals.size
  unfold Lapper.seek
  dsimp only
  generalize (c == 0 || _) = reseed
  have hc1 : Below s.intervals (if reseed = true then lowerBound (qs - s.maxLen) s.intervals else c) (qs - s.maxLen) := by
    split
    · exact lowerBound_take _ _ hsorted
    · exact hinv.mono hmono
  exact ⟨scan_drop_eq_filter hsorted hmax (hb _ hc1) qe, hb _ hc1⟩

def seekAll (s : Lapper α) : List (Nat × Nat) → Nat → List (List (Iv α))
  | [], _ => []
  | (qs, qe) :: rest, c => (s.seek qs qe c).1 :: seekAll s rest (s.seek qs qe c).2

theorem seekAll_eq (s : Lapper α)
    (hsorted : SortedStart s.intervals.toList)
    (hmax : ∀ iv ∈ s.intervals.toList, iv.len ≤ s.maxLen)
    (qs : List (Nat × Nat)) (hasc : qs.Pairwise (fun a b => a.1 ≤ b.1)) :
    ∀ c prevBound, Below s.intervals c prevBound → (∀ q ∈ qs, prevBound ≤ q.1 - s.maxLen) →
      seekAll s qs c = qs.map (fun q => s.intervals.toList.filter (·.ov q.1 q.2)) := by
  induction qs with
  | nil => intro _ _ _ _; rfl
  | cons q rest ih =>
    intro c b hinv hb
    have hp := List.pairwise_cons.mp hasc
    obtain ⟨h1, h2⟩ := seek_step s hsorted hmax q.1 q.2 c b hinv (hb q List.mem_cons_self)
    simp only [seekAll, List.map_cons, h1]
    congr 1
    exact ih hp.2 _ (q.1 - s.maxLen) h2 fun q' hq' => Nat.sub_le_sub_right (hp.1 q' hq') _

theorem seekAll_zero (s : Lapper α)
    (hsorted : SortedStart s.intervals.toList)
    (hmax : ∀ iv ∈ s.intervals.toList, iv.len ≤ s.maxLen)
    (qs : List (Nat × Nat)) (hasc : qs.Pairwise (fun a b => a.1 ≤ b.1)) :
    seekAll s qs 0 = qs.map (fun q => s.intervals.toList.filter (·.ov q.1 q.2)) :=
  seekAll_eq s hsorted hmax qs hasc 0 0 (Below.zero _ _) (fun _ _ => Nat.zero_le _)

end BV
