import BedVerif.Lemmas.RLE
import BedVerif.Lemmas.ListReflect
/-! C20, part 3: the Boolean checker `isDepthRLEB` — what its pointwise test says, and that the test holds
everywhere once it holds at the breakpoints. -/
namespace BV
variable {α : Type}

/-- the pointwise test of the checker -/
def okB (l : List (Iv α)) (runs : List (Iv Nat)) (p : Nat) : Bool :=
  match runs.filter (·.covers p) with
  | [] => depthOf l p == 0
  | [r] => depthOf l p == r.val && r.val > 0
  | _ => false

theorem covers_zero {β : Type} (iv : Iv β) (h : iv.start ≠ 0) : iv.covers 0 = false := by
  rw [Bool.eq_false_iff, Ne, Iv.covers_iff]; omega

theorem covers_succ {β : Type} (iv : Iv β) (p : Nat) (h1 : iv.start ≠ p + 1) (h2 : iv.stop ≠ p + 1) :
    iv.covers (p + 1) = iv.covers p := by
  rw [Bool.eq_iff_iff, Iv.covers_iff, Iv.covers_iff]; omega

theorem mem_breakpoints (l : List (Iv α)) (runs : List (Iv Nat)) :
    (∀ iv ∈ l, iv.start ∈ breakpoints l runs ∧ iv.stop ∈ breakpoints l runs) ∧
    (∀ r ∈ runs, r.start ∈ breakpoints l runs ∧ r.stop ∈ breakpoints l runs) := by
  unfold breakpoints
  refine ⟨fun iv h => ⟨?_, ?_⟩, fun r h => ⟨?_, ?_⟩⟩
  · exact List.mem_append_left _ (List.mem_flatMap.mpr ⟨iv, h, by simp⟩)
  · exact List.mem_append_left _ (List.mem_flatMap.mpr ⟨iv, h, by simp⟩)
  · exact List.mem_append_right _ (List.mem_flatMap.mpr ⟨r, h, by simp⟩)
  · exact List.mem_append_right _ (List.mem_flatMap.mpr ⟨r, h, by simp⟩)

/-- the pointwise test holds everywhere once it holds at the breakpoints: from `p` to `p + 1` neither the depth
nor the runs covering the position change unless `p + 1` is an endpoint -/
theorem okB_everywhere (l : List (Iv α)) (runs : List (Iv Nat))
    (h : ∀ q ∈ breakpoints l runs, okB l runs q = true) (p : Nat) : okB l runs p = true := by
  obtain ⟨hl, hr⟩ := mem_breakpoints l runs
  induction p with
  | zero =>
    by_cases hb : 0 ∈ breakpoints l runs
    · exact h 0 hb
    · have hf : runs.filter (·.covers 0) = [] :=
        List.filter_eq_nil_iff.mpr fun r hr' => by
          rw [covers_zero r (fun e => hb (e ▸ (hr r hr').1))]; simp
      have hd : depthOf l 0 = 0 :=
        List.countP_eq_zero.mpr fun iv hiv => by
          rw [covers_zero iv (fun e => hb (e ▸ (hl iv hiv).1))]; simp
      rw [okB, hf, hd]; rfl
  | succ p ih =>
    by_cases hb : p + 1 ∈ breakpoints l runs
    · exact h _ hb
    · have hf : runs.filter (·.covers (p+1)) = runs.filter (·.covers p) :=
        List.filter_congr fun r hr' =>
          covers_succ r p (fun e => hb (e ▸ (hr r hr').1)) (fun e => hb (e ▸ (hr r hr').2))
      have hd : depthOf l (p+1) = depthOf l p :=
        List.countP_congr fun iv hiv => by
          rw [covers_succ iv p (fun e => hb (e ▸ (hl iv hiv).1)) (fun e => hb (e ▸ (hl iv hiv).2))]
      rw [okB, hf, hd]; exact ih

theorem okB_cases (l : List (Iv α)) (runs : List (Iv Nat)) (p : Nat) (h : okB l runs p = true) :
    (runs.filter (·.covers p) = [] ∧ depthOf l p = 0) ∨
    ∃ r, runs.filter (·.covers p) = [r] ∧ depthOf l p = r.val ∧ 0 < r.val := by
  unfold okB at h
  split at h
  · rename_i hf; exact Or.inl ⟨hf, by simpa using h⟩
  · rename_i r hf; exact Or.inr ⟨r, hf, by simpa using h⟩
  · cases h

/-- fixture `test_depth_harder` of the crate passes the checker -/
theorem depth_harder_ok :
    isDepthRLEB [(⟨1,10,()⟩ : Iv Unit), ⟨2,5,()⟩, ⟨3,8,()⟩, ⟨3,8,()⟩, ⟨3,8,()⟩, ⟨5,8,()⟩, ⟨9,11,()⟩, ⟨15,20,()⟩]
      [⟨1,2,1⟩, ⟨2,3,2⟩, ⟨3,8,5⟩, ⟨8,9,1⟩, ⟨9,10,2⟩, ⟨10,11,1⟩, ⟨15,20,1⟩] = true := by decide +kernel

end BV
