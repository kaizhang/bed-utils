import BedVerif.Model.Coverage
import BedVerif.Props.C11
/-!
Pointwise algebra of the counter updates, shared by the region counters (C05) and the binned
counters (C06): `addAt` on vectors, `mapAdd` on key-sorted association lists (the `BTreeMap`),
`asVec`, which carries the second to the first, and what the positions found for a tag add to a slot.
-/
namespace BV

theorem addAt_eq_modify (l : List Int) (i : Nat) (k : Int) : addAt l i k = l.modify i (· + k) := by
  rw [List.modify_eq_set, addAt]
  cases h : l[i]? with
  | some x => rfl
  | none => exact (List.set_eq_of_length_le (List.getElem?_eq_none_iff.mp h)).symm

theorem length_addAt (l : List Int) (i : Nat) (k : Int) : (addAt l i k).length = l.length := by
  rw [addAt_eq_modify, List.length_modify]

theorem getElem?_addAt (l : List Int) (i j : Nat) (k : Int) :
    (addAt l i k)[j]? = l[j]?.map (· + if i = j then k else 0) := by
  rw [addAt_eq_modify, List.getElem?_modify]
  refine congrArg (· <$> l[j]?) (funext fun a => ?_)
  split
  · rfl
  · exact (Int.add_zero a).symm

/-- what a list of hit indices adds to slot `j` -/
def hits (idxs : List Nat) (j : Nat) (k : Int) : Int := (idxs.map (fun i => if i = j then k else 0)).sum

theorem hits_nil (j : Nat) (k : Int) : hits [] j k = 0 := rfl

theorem hits_cons (i : Nat) (rest : List Nat) (j : Nat) (k : Int) :
    hits (i :: rest) j k = (if i = j then k else 0) + hits rest j k := by
  simp [hits]

theorem hits_append (a b : List Nat) (j : Nat) (k : Int) : hits (a ++ b) j k = hits a j k + hits b j k := by
  simp [hits]

theorem hits_of_nodup {idxs : List Nat} (h : idxs.Nodup) (j : Nat) (k : Int) :
    hits idxs j k = if j ∈ idxs then k else 0 := by
  induction idxs with
  | nil => rfl
  | cons i rest ih =>
    obtain ⟨h1, h2⟩ := List.nodup_cons.mp h
    rw [hits_cons, ih h2]
    by_cases e : i = j
    · subst e; simp [h1]
    · simp [e, Ne.symm e]

theorem getElem?_foldl_addAt (idxs : List Nat) (k : Int) (c : List Int) (j : Nat) :
    (idxs.foldl (fun c i => addAt c i k) c)[j]? = c[j]?.map (· + hits idxs j k) := by
  induction idxs generalizing c with
  | nil => simp [hits_nil]
  | cons i rest ih =>
    rw [List.foldl_cons, ih, getElem?_addAt, hits_cons, Option.map_map]
    congr 1
    funext x
    exact Int.add_assoc ..

theorem length_foldl_addAt (idxs : List Nat) (k : Int) (c : List Int) :
    (idxs.foldl (fun c i => addAt c i k) c).length = c.length := by
  induction idxs generalizing c with
  | nil => rfl
  | cons i rest ih => rw [List.foldl_cons, ih, length_addAt]

def KSorted (m : List (Nat × Int)) : Prop := (m.map (·.1)).Pairwise (· < ·)

theorem KSorted_cons {ab : Nat × Int} {m : List (Nat × Int)} :
    KSorted (ab :: m) ↔ (∀ kv ∈ m, ab.1 < kv.1) ∧ KSorted m := by
  rw [KSorted, List.map_cons, List.pairwise_cons, List.forall_mem_map]
  rfl

/-- first-match lookup with default -/
def lkD : List (Nat × Int) → Nat → Int → Int
  | [], _, d => d
  | (a, b) :: r, j, d => if a = j then b else lkD r j d

theorem lkD_of_ne (m : List (Nat × Int)) (j : Nat) (d : Int) (h : ∀ kv ∈ m, kv.1 ≠ j) : lkD m j d = d := by
  induction m with
  | nil => rfl
  | cons ab r ih =>
    obtain ⟨hab, hr⟩ := List.forall_mem_cons.mp h
    rw [lkD, if_neg hab, ih hr]

theorem mapAdd_forall (P : Nat → Prop) (m : List (Nat × Int)) (i : Nat) (k : Int)
    (hm : ∀ kv ∈ m, P kv.1) (hi : P i) : ∀ kv ∈ mapAdd m i k, P kv.1 := by
  fun_induction mapAdd m i k with
  | case1 => exact List.forall_mem_cons.mpr ⟨hi, hm⟩
  | case2 => exact List.forall_mem_cons.mpr ⟨hi, hm⟩
  | case3 => exact List.forall_mem_cons.mpr (List.forall_mem_cons.mp hm)
  | case4 j v rest i k _ _ ih =>
    obtain ⟨ha, hr⟩ := List.forall_mem_cons.mp hm
    exact List.forall_mem_cons.mpr ⟨ha, ih hr hi⟩

theorem mapAdd_sorted (m : List (Nat × Int)) (i : Nat) (k : Int) (hs : KSorted m) : KSorted (mapAdd m i k) := by
  fun_induction mapAdd m i k with
  | case1 => exact KSorted_cons.mpr ⟨fun _ h => (nomatch h), hs⟩
  | case2 j v rest i k hij =>
    exact KSorted_cons.mpr ⟨List.forall_mem_cons.mpr
      ⟨hij, fun kv h => Nat.lt_trans hij ((KSorted_cons.mp hs).1 kv h)⟩, hs⟩
  | case3 => exact KSorted_cons.mpr (KSorted_cons.mp hs)
  | case4 j v rest i k h1 h2 ih =>
    obtain ⟨ha, hr⟩ := KSorted_cons.mp hs
    exact KSorted_cons.mpr ⟨mapAdd_forall (j < ·) rest i k ha (by omega), ih hr⟩

theorem lkD_mapAdd (m : List (Nat × Int)) (i : Nat) (k : Int) (j : Nat) (hs : KSorted m) :
    lkD (mapAdd m i k) j 0 = lkD m j 0 + if i = j then k else 0 := by
  fun_induction mapAdd m i k with
  | case1 i k => rw [lkD, lkD, Int.zero_add]; rfl
  | case2 a v rest i k hia =>
    rw [lkD]
    split
    next hij =>
      -- `i` is below every key
      rw [lkD_of_ne _ j 0 (List.forall_mem_cons.mpr ⟨fun e => Nat.ne_of_lt hia (hij.trans e.symm),
        fun kv h e => Nat.ne_of_lt (Nat.lt_trans hia ((KSorted_cons.mp hs).1 kv h)) (hij.trans e.symm)⟩),
        Int.zero_add]
    next => exact (Int.add_zero _).symm
  | case3 v rest i k =>
    rw [lkD, lkD]
    split
    · rfl
    · exact (Int.add_zero _).symm
  | case4 a v rest i k h1 h2 ih =>
    rw [lkD, lkD]
    split
    next haj => rw [if_neg fun e => h2 (e.trans haj.symm), Int.add_zero]
    next => exact ih (KSorted_cons.mp hs).2

theorem getElem?_foldl_set (m : List (Nat × Int)) (hs : KSorted m) (v : List Int) (j : Nat) :
    (m.foldl (fun v (ix : Nat × Int) => v.set ix.1 ix.2) v)[j]? = v[j]?.map (lkD m j) := by
  induction m generalizing v with
  | nil => simp [lkD]
  | cons ab r ih =>
    obtain ⟨h1, h2⟩ := KSorted_cons.mp hs
    rw [List.foldl_cons, ih h2, List.getElem?_set]
    by_cases hja : ab.1 = j
    · -- later keys are larger, so the value written here survives
      subst hja
      have hr : lkD r ab.1 = id := funext fun x => lkD_of_ne r _ x fun kv hkv => Nat.ne_of_gt (h1 kv hkv)
      by_cases hlt : ab.1 < v.length <;> simp [hlt, lkD, hr]
    · simp [hja, lkD]

theorem getElem?_asVec (n : Nat) (m : List (Nat × Int)) (hs : KSorted m) (j : Nat) :
    (asVec n m)[j]? = if j < n then some (lkD m j 0) else none := by
  rw [asVec, getElem?_foldl_set m hs, List.getElem?_replicate]
  split <;> rfl

theorem length_asVec (n : Nat) (m : List (Nat × Int)) : (asVec n m).length = n := by
  unfold asVec
  exact List.foldlRecOn (motive := fun (v : List Int) => v.length = n) m _ List.length_replicate
    fun v hv _ _ => List.length_set.trans hv

theorem asVec_mapAdd (n : Nat) (m : List (Nat × Int)) (i : Nat) (k : Int) (hs : KSorted m) :
    asVec n (mapAdd m i k) = addAt (asVec n m) i k := by
  apply List.ext_getElem?
  intro j
  rw [getElem?_addAt, getElem?_asVec n _ (mapAdd_sorted m i k hs), getElem?_asVec n m hs, lkD_mapAdd m i k j hs]
  split <;> rfl

theorem asVec_foldl_mapAdd {ι : Type} (n : Nat) (g : ι → Nat) (k : Int) (xs : List ι) (m : List (Nat × Int))
    (hs : KSorted m) :
    KSorted (xs.foldl (fun m x => mapAdd m (g x) k) m) ∧
    asVec n (xs.foldl (fun m x => mapAdd m (g x) k) m) = xs.foldl (fun c x => addAt c (g x) k) (asVec n m) := by
  induction xs generalizing m with
  | nil => exact ⟨hs, rfl⟩
  | cons x xs ih =>
    rw [List.foldl_cons, List.foldl_cons, ← asVec_mapAdd n m _ k hs]
    exact ih _ (mapAdd_sorted m _ k hs)

theorem hits_findIndexOf (regions : List Rec) (tag : Rec) (j : Nat) (k : Int) :
    hits ((IndexSet.fromIter regions).findIndexOf tag) j k =
      if j < regions.length ∧ (regions.getD j default).ov tag = true then k else 0 := by
  have hp := C11_findIndexOf_perm regions tag
  rw [hits_of_nodup (hp.nodup_iff.mpr (List.nodup_range.filter _))]
  simp only [hp.mem_iff, List.mem_filter, List.mem_range]

end BV
