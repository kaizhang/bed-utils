import BedVerif.Lemmas.C20Walk
import BedVerif.Lemmas.RLE
import BedVerif.Props.C18
/-!
C20, part 2: the iterator state against its position in the merged helper. One `next()` is one `cons` of `RLEFrom`
(`next_step`); the drain loop iterates it (`drain_rleFrom`), and from the initial state that is `depth()`.
-/
namespace BV
variable {α : Type}

/-- the sentinel-decoded current position -/
def effPos (st : DepthSt) (iv0 : Iv Bool) : Nat := if st.currMergedPos == 0 then iv0.start else st.currMergedPos

theorem effPos_of_pos (st : DepthSt) (iv : Iv Bool) (h : 0 < st.currMergedPos) : effPos st iv = st.currMergedPos := by
  rw [effPos, if_neg (mt beq_iff_eq.mp (Nat.ne_of_gt h))]

theorem depthNext_none (s : Lapper α) (m : Array (Iv Bool)) (st : DepthSt) (h : m[st.currPos]? = none) :
    depthNext s m st = (none, st) := by
  simp only [depthNext, h]

theorem depthNext_here (s : Lapper α) (m : Array (Iv Bool)) (st : DepthSt) (iv0 : Iv Bool)
    (h : m[st.currPos]? = some iv0) (hne : iv0.stop ≠ effPos st iv0) :
    depthNext s m st = emit s iv0 (effPos st iv0) st.currPos st.cursor := by
  have hne' : (iv0.stop == effPos st iv0) = false := beq_eq_false_iff_ne.mpr hne
  unfold effPos at hne'
  simp only [depthNext, h, hne']
  rfl

theorem depthNext_next (s : Lapper α) (m : Array (Iv Bool)) (st : DepthSt) (iv0 iv1 : Iv Bool)
    (h : m[st.currPos]? = some iv0) (heq : iv0.stop = effPos st iv0) (h1 : m[st.currPos + 1]? = some iv1) :
    depthNext s m st = emit s iv1 iv1.start (st.currPos + 1) st.cursor := by
  have heq' : (iv0.stop == effPos st iv0) = true := beq_iff_eq.mpr heq
  have hsz : (st.currPos + 1 != m.size) = true :=
    bne_iff_ne.mpr (Nat.ne_of_lt (Array.getElem?_eq_some_iff.mp h1).1)
  unfold effPos at heq'
  simp only [depthNext, h, heq', hsz, h1]
  rfl

theorem depthNext_last (s : Lapper α) (m : Array (Iv Bool)) (st : DepthSt) (iv0 : Iv Bool)
    (h : m[st.currPos]? = some iv0) (heq : iv0.stop = effPos st iv0) (h1 : m[st.currPos + 1]? = none) :
    (depthNext s m st).1 = none := by
  have heq' : (iv0.stop == effPos st iv0) = true := beq_iff_eq.mpr heq
  unfold effPos at heq'
  simp only [depthNext, h, heq', h1, if_true, ite_self]

theorem depthDrain_acc (s : Lapper α) (m : Array (Iv Bool)) : ∀ fuel st acc,
    depthDrain s m fuel st acc = acc.reverse ++ depthDrain s m fuel st [] := by
  intro fuel
  induction fuel with
  | zero => intro st acc; simp only [depthDrain, List.reverse_nil, List.append_nil]
  | succ n ih =>
    intro st acc
    simp only [depthDrain]
    split
    · simp only [List.reverse_nil, List.append_nil]
    · rename_i r st' _
      rw [ih st' (r :: acc), ih st' [r], List.reverse_cons, List.append_assoc]
      rfl

theorem depthDrain_none (s : Lapper α) (m : Array (Iv Bool)) (n : Nat) (st : DepthSt)
    (h : (depthNext s m st).1 = none) : depthDrain s m (n+1) st [] = [] := by
  simp only [depthDrain]
  split
  · rfl
  · rename_i heq; rw [heq] at h; cases h

theorem depthDrain_some (s : Lapper α) (m : Array (Iv Bool)) (n : Nat) (st st' : DepthSt) (r : Iv Nat)
    (h : depthNext s m st = (some r, st')) : depthDrain s m (n+1) st [] = r :: depthDrain s m n st' [] := by
  simp only [depthDrain, h]
  exact depthDrain_acc s m n st' [r]

/-- `bs` are the maximal blocks of positions `≥ lo` where `f` is positive: ascending, each followed by a zero of `f`.
This is what the iterator uses of the merged helper; the recursion follows the iterator through the list. -/
def Blocks {β : Type} (f : Nat → Nat) : Nat → List (Iv β) → Prop
  | lo, [] => ∀ p, lo ≤ p → f p = 0
  | lo, b :: bs =>
      lo ≤ b.start ∧ b.start < b.stop ∧ (∀ p, lo ≤ p → p < b.start → f p = 0) ∧
      (∀ p, b.start ≤ p → p < b.stop → 0 < f p) ∧ f b.stop = 0 ∧ Blocks f b.stop bs

theorem blocks_of_canonical {β : Type} (f : Nat → Nat) : ∀ (ml : List (Iv β)) (lo : Nat), Canonical ml →
    (∀ iv ∈ ml, lo ≤ iv.start) → (∀ p, lo ≤ p → (0 < f p ↔ covered ml p)) → Blocks f lo ml := by
  intro ml
  induction ml with
  | nil =>
    intro lo _ _ h p hp
    rcases Nat.eq_zero_or_pos (f p) with h0 | h0
    · exact h0
    · exact absurd ((h p hp).mp h0) (covered_nil p)
  | cons b bs ih =>
    intro lo hc hlo h
    have hne := hc.1 b List.mem_cons_self
    have hsep := (List.pairwise_cons.mp hc.2).1
    have hb := hlo b List.mem_cons_self
    -- a position below `b.start` or at `b.stop` is not covered
    have hz : ∀ p, lo ≤ p → (p < b.start ∨ p = b.stop) → f p = 0 := by
      intro p hp hpb
      rcases Nat.eq_zero_or_pos (f p) with h0 | h0
      · exact h0
      · rcases (covered_cons_iff b bs p).mp ((h p hp).mp h0) with hcb | ⟨r, hr, hrc⟩
        · rw [Iv.covers_iff] at hcb; omega
        · have := hsep r hr
          rw [Iv.covers_iff] at hrc; omega
    refine ⟨hb, hne, fun p h1 h2 => hz p h1 (Or.inl h2), fun p h1 h2 => ?_, hz b.stop (by omega) (Or.inr rfl), ?_⟩
    · exact (h p (by omega)).mpr ((covered_cons_iff b bs p).mpr (Or.inl ((Iv.covers_iff b p).mpr ⟨h1, h2⟩)))
    · refine ih b.stop ⟨fun iv hiv => hc.1 iv (List.mem_cons_of_mem _ hiv), (List.pairwise_cons.mp hc.2).2⟩
        (fun iv hiv => Nat.le_of_lt (hsep iv hiv)) (fun p hp => ?_)
      rw [h p (by omega), covered_cons_iff, Iv.covers_iff]
      exact ⟨fun h => h.elim (fun h => by omega) id, Or.inr⟩

theorem covered_map_flag (l : List (Iv α)) (p : Nat) :
    covered (l.map (fun i => (⟨i.start, i.stop, true⟩ : Iv Bool))) p ↔ covered l p := by
  unfold covered
  constructor
  · intro ⟨iv, hm, hc⟩
    obtain ⟨a, ha, rfl⟩ := List.mem_map.mp hm
    exact ⟨a, ha, hc⟩
  · intro ⟨a, ha, hc⟩
    exact ⟨_, List.mem_map.mpr ⟨a, ha, rfl⟩, hc⟩

theorem depthMerged_spec (s : Lapper α) (hne : ∀ iv ∈ s.intervals.toList, iv.start < iv.stop) :
    Canonical s.depthMerged.toList ∧ ∀ p, covered s.depthMerged.toList p ↔ covered s.intervals.toList p := by
  have hm : s.depthMerged.toList =
      mergeList (Lapper.new (s.intervals.toList.map (fun i => (⟨i.start, i.stop, true⟩ : Iv Bool)))).intervals.toList := by
    unfold Lapper.depthMerged; rw [mergeOverlaps_intervals]
  have hperm := new_intervals_perm (s.intervals.toList.map (fun i => (⟨i.start, i.stop, true⟩ : Iv Bool)))
  have hsorted := (inv_new (s.intervals.toList.map (fun i => (⟨i.start, i.stop, true⟩ : Iv Bool)))).sortedStart
  have hne' : ∀ iv ∈ (Lapper.new (s.intervals.toList.map (fun i => (⟨i.start, i.stop, true⟩ : Iv Bool)))).intervals.toList,
      iv.start < iv.stop := by
    intro iv hiv
    obtain ⟨a, ha, rfl⟩ := List.mem_map.mp (hperm.mem_iff.mp hiv)
    exact hne a ha
  obtain ⟨c1, c2⟩ := C18_mergeList_canonical _ hsorted hne'
  rw [hm]
  refine ⟨c1, fun p => ?_⟩
  rw [c2 p, covered_perm_iff hperm p, covered_map_flag]

theorem suffix_getElem? {β : Type} {m : Array β} {k : Nat} {x : β} {rest : List β} (h : m.toList.drop k = x :: rest) :
    m[k]? = some x ∧ m[k+1]? = rest.head? ∧ m.toList.drop (k+1) = rest := by
  have h1 : m.toList.drop (k+1) = rest := by rw [List.drop_add_one_eq_tail_drop, h]; rfl
  refine ⟨?_, ?_, h1⟩
  · rw [← Array.getElem?_toList, ← List.head?_drop, h]; rfl
  · rw [← Array.getElem?_toList, ← List.head?_drop, h1]

/-- the iterator has reached `pos` inside the merged interval `iv0` (index `cp`, followed by `rest`), with a cursor
usable from `pos` on -/
structure At (s : Lapper α) (m : Array (Iv Bool)) (cp cursor : Nat) (iv0 : Iv Bool) (rest : List (Iv Bool))
    (pos : Nat) : Prop where
  drop : m.toList.drop cp = iv0 :: rest
  le : pos ≤ iv0.stop
  good : Good s cursor pos
  inside : ∀ p, pos ≤ p → p < iv0.stop → 0 < depthOf s.intervals.toList p
  stop0 : depthOf s.intervals.toList iv0.stop = 0
  blocks : Blocks (depthOf s.intervals.toList) iv0.stop rest

/-- emitting from `start` inside `iv` is one `cons` of `RLEFrom`: the run ends at a change of depth, or at the end of
the merged interval, where the depth is 0 -/
theorem emit_at {s : Lapper α} (hs : SOK s) {m : Array (Iv Bool)} {cp cursor start : Nat} {iv : Iv Bool}
    {rest : List (Iv Bool)} (h : At s m cp cursor iv rest start) (hlt : start < iv.stop) :
    ∃ pos' cur', emit s iv start cp cursor = (some ⟨start, pos', depthOf s.intervals.toList start⟩, ⟨pos', cp, cur'⟩) ∧
      start < pos' ∧ At s m cp cur' iv rest pos' ∧
      ∀ runs, RLEFrom (depthOf s.intervals.toList) pos' runs →
        RLEFrom (depthOf s.intervals.toList) start (⟨start, pos', depthOf s.intervals.toList start⟩ :: runs) := by
  obtain ⟨pos', cur', he, e1, e2, e3, e4, e5⟩ := emit_spec hs iv start cp cursor h.good hlt
  have hd := h.inside start (Nat.le_refl _) hlt
  refine ⟨pos', cur', he, e1, ⟨h.drop, e2, e5, fun p h1 h2 => h.inside p (by omega) h2, h.stop0, h.blocks⟩,
    fun runs hr => RLEFrom.cons (Nat.le_refl _) e1 hd (fun p h1 h2 => absurd h2 (Nat.not_lt_of_le h1)) e3 ?_ hr⟩
  by_cases hp : pos' < iv.stop
  · exact e4 hp
  · rw [show pos' = iv.stop by omega, h.stop0]; omega

/-- one `next()`: the iterator is exhausted and the depth is 0 from `pos` on, or it emits one run and stands at the end
of that run with less left to do -/
theorem next_step {s : Lapper α} (hs : SOK s) {m : Array (Iv Bool)} {st : DepthSt} {iv0 : Iv Bool}
    {rest : List (Iv Bool)} {pos : Nat} (h : At s m st.currPos st.cursor iv0 rest pos) (hpos : effPos st iv0 = pos) :
    ((depthNext s m st).1 = none ∧ RLEFrom (depthOf s.intervals.toList) pos []) ∨
    ∃ r st' iv' rest' pos', depthNext s m st = (some r, st') ∧ At s m st'.currPos st'.cursor iv' rest' pos' ∧
      effPos st' iv' = pos' ∧
      (rest'.map (·.len)).sum + rest'.length + (iv'.stop - pos') < (rest.map (·.len)).sum + rest.length + (iv0.stop - pos) ∧
      ∀ runs, RLEFrom (depthOf s.intervals.toList) pos' runs → RLEFrom (depthOf s.intervals.toList) pos (r :: runs) := by
  obtain ⟨h0, h1, hdrop1⟩ := suffix_getElem? h.drop
  have hle := h.le
  by_cases heq : iv0.stop = pos
  · cases rest with
    | nil =>
      exact Or.inl ⟨depthNext_last s m st iv0 h0 (heq.trans hpos.symm) h1, fun p hp => h.blocks p (by omega)⟩
    | cons iv1 rest' =>
      obtain ⟨b1, b2, b3, b4, b5, b6⟩ := h.blocks
      obtain ⟨pos', cur', he, e1, hA, hc⟩ := emit_at hs
        (⟨hdrop1, Nat.le_of_lt b2, h.good.mono (by omega), b4, b5, b6⟩ : At s m (st.currPos + 1) st.cursor iv1 rest' iv1.start) b2
      have hle' := hA.le
      refine Or.inr ⟨_, ⟨pos', st.currPos + 1, cur'⟩, iv1, rest', pos', (depthNext_next s m st iv0 iv1 h0 (heq.trans hpos.symm) h1).trans he, hA,
        effPos_of_pos _ _ (by show 0 < pos'; omega), ?_,
        fun runs hr => (hc runs hr).lower (by omega) (fun x hx1 hx2 => b3 x (by omega) hx2)⟩
      simp only [List.map_cons, List.sum_cons, List.length_cons]
      rw [Iv.len]
      omega
  · obtain ⟨pos', cur', he, e1, hA, hc⟩ := emit_at hs h (by omega)
    have hle' := hA.le
    refine Or.inr ⟨_, ⟨pos', st.currPos, cur'⟩, iv0, rest, pos', ?_, hA, effPos_of_pos _ _ (by show 0 < pos'; omega), by omega, hc⟩
    rw [depthNext_here s m st iv0 h0 (by rw [hpos]; exact heq), hpos]
    exact he

-- every tactic that elaborates a term against a goal `RLEFrom f lo (depthDrain …)` first puts that goal into weak head
-- normal form, which would run the loop as far as it goes
attribute [local irreducible] depthDrain

/-- the fuel pays one unit per position left in the merged intervals and one per merged interval -/
theorem drain_rleFrom {s : Lapper α} (hs : SOK s) {m : Array (Iv Bool)} :
    ∀ fuel st iv0 rest pos, At s m st.currPos st.cursor iv0 rest pos → effPos st iv0 = pos →
      (rest.map (·.len)).sum + rest.length + (iv0.stop - pos) < fuel →
      RLEFrom (depthOf s.intervals.toList) pos (depthDrain s m fuel st []) := by
  intro fuel
  induction fuel with
  | zero => intro _ _ _ _ _ _ hf; omega
  | succ n ih =>
    intro st iv0 rest pos h hpos hf
    rcases next_step hs h hpos with ⟨hn, hr⟩ | ⟨r, st', iv', rest', pos', hn, hA, hpos', hlt, hc⟩
    · rw [depthDrain_none s m n st hn]
      exact hr
    · rw [depthDrain_some s m n st st' r hn]
      exact hc _ (ih st' iv' rest' pos' hA hpos' (by omega))

theorem depth_rleFrom (s : Lapper α) (hs : SOK s) (hne : ∀ iv ∈ s.intervals.toList, iv.start < iv.stop) :
    RLEFrom (depthOf s.intervals.toList) 0 s.depth := by
  obtain ⟨hc, hcov⟩ := depthMerged_spec s hne
  have hB := blocks_of_canonical (depthOf s.intervals.toList) s.depthMerged.toList 0 hc (fun _ _ => Nat.zero_le _)
    (fun p _ => (depthOf_pos _ p).trans (hcov p).symm)
  unfold Lapper.depth
  simp only
  generalize s.depthMerged = m at hB
  rcases hm : m.toList with _ | ⟨iv0, rest⟩
  · rw [hm] at hB
    rw [depthDrain_none s m _ _ (by rw [depthNext_none s m _ (by simp [← Array.getElem?_toList, hm])])]
    exact hB
  · rw [hm] at hB
    obtain ⟨b1, b2, b3, b4, b5, b6⟩ := hB
    apply RLEFrom.lower _ b1 b3
    apply drain_rleFrom hs _ ⟨0, 0, 0⟩ iv0 rest iv0.start ⟨by simpa using hm, Nat.le_of_lt b2, Below.zero _ _, b4, b5, b6⟩ rfl
    simp only [List.map_cons, List.sum_cons, List.length_cons, ← Array.length_toList, hm]
    rw [Iv.len]
    omega

-- as above: keeps the elaborator from running `depth()` when it meets `RLEFrom f 0 s.depth` as an expected type
attribute [local irreducible] Lapper.depth in
theorem depth_spec_of (s : Lapper α) (hs : SOK s) (hne : ∀ iv ∈ s.intervals.toList, iv.start < iv.stop) :
    IsDepthRLE s.intervals.toList s.depth :=
  isDepthRLE_of_rleFrom _ _ (depth_rleFrom s hs hne)

end BV
