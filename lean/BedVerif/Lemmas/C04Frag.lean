import BedVerif.Lemmas.C04Lines
/-!
`splitAtLF` is the scan of `takeLine`; its lemmas have the same shape.
-/
namespace BV

theorem splitAtLF_append_of_not_mem {l : Bytes} (h : LF ∉ l) (rest : Bytes) :
    splitAtLF (l ++ rest) = (splitAtLF rest).map fun pq => (l ++ pq.1, pq.2) := by
  induction l with
  | nil => simp
  | cons c cs ih =>
    rw [List.mem_cons, not_or] at h
    simp only [List.cons_append, splitAtLF, beq_eq_false_iff_ne.mpr (Ne.symm h.1), ih h.2,
      Bool.false_eq_true, ↓reduceIte, Option.map_map]
    rfl

theorem splitAtLF_of_not_mem {l : Bytes} (h : LF ∉ l) : splitAtLF l = none := by
  simpa only [List.append_nil, splitAtLF, Option.map_none] using splitAtLF_append_of_not_mem h []

theorem splitAtLF_LF {l : Bytes} (h : LF ∉ l) (rest : Bytes) :
    splitAtLF (l ++ LF :: rest) = some (l ++ [LF], rest) :=
  splitAtLF_append_of_not_mem h (LF :: rest)

/-- no `read` of the source returns zero bytes before the end -/
def NoEmptyData (src : List Chunk) : Prop := ∀ c ∈ src, ∀ b, c = .data b → b ≠ []

theorem NoEmptyData.tail {c : Chunk} {src : List Chunk} (h : NoEmptyData (c :: src)) : NoEmptyData src :=
  fun c hc => h c (List.mem_cons_of_mem _ hc)

theorem NoEmptyData.cons {b : Bytes} {src : List Chunk} (hb : b ≠ []) (h : NoEmptyData src) :
    NoEmptyData (.data b :: src) := by
  intro c hc b' hb'
  rcases List.mem_cons.mp hc with rfl | hc
  · cases hb'; exact hb
  · exact h c hc b' hb'

theorem readUntilLF_spec (src : List Chunk) : ∀ (fuel : Nat) (acc : Bytes), src.length ≤ fuel → NoEmptyData src →
    (readUntilLF fuel src acc).1 = acc ++ (takeLine (flattenChunks src)).1 ∧
    flattenChunks (readUntilLF fuel src acc).2 = (takeLine (flattenChunks src)).2 ∧
    NoEmptyData (readUntilLF fuel src acc).2 := by
  induction src with
  | nil => intro fuel acc _ h; cases fuel <;> exact ⟨(List.append_nil acc).symm, rfl, h⟩
  | cons c rest ih =>
    intro fuel acc hlen hne
    obtain ⟨n, rfl⟩ := Nat.exists_eq_add_one_of_ne_zero (Nat.ne_zero_of_lt hlen)
    have ih := fun acc => ih n acc (Nat.le_of_succ_le_succ hlen) hne.tail
    cases c with
    | interrupted => exact ih acc
    | data b =>
      have hb : b ≠ [] := hne _ List.mem_cons_self b rfl
      have hbe : b.isEmpty = false := by simpa using hb
      by_cases hlf : LF ∈ b
      · -- the line ends inside this fragment; what follows the LF stays buffered
        obtain ⟨l, post, rfl, hl⟩ := List.eq_append_cons_of_mem hlf
        simp only [readUntilLF, hbe, splitAtLF_LF hl, flattenChunks, List.append_assoc, List.cons_append,
          takeLine_LF hl, Bool.false_eq_true, ↓reduceIte, true_and]
        by_cases hp : post = []
        · subst hp; exact ⟨rfl, hne.tail⟩
        · have : post.isEmpty = false := by simpa using hp
          rw [this]
          exact ⟨rfl, .cons hp hne.tail⟩
      · simp only [readUntilLF, hbe, splitAtLF_of_not_mem hlf, flattenChunks, takeLine_append_of_not_mem hlf,
          Bool.false_eq_true, ↓reduceIte, ← List.append_assoc]
        exact ih (acc ++ b)

end BV
