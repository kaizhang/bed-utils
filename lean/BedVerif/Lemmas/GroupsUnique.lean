import BedVerif.Props.Sound
/-!
# The C07 specification determines the grouping (and the merged ranges)

`GroupsSpec xs gs` is the conclusion of `C07_goodGroupsB_sound` (the clauses of `GoodGroups`, written
as a conjunction). Two groupings of one input with these clauses are equal (`groupsSpec_unique`; no
sortedness is needed: the first groups must have the same length, because a group is chained
internally while the first record of the next group does not chain onto it), hence for sorted input
the specification holds of exactly the model's result (`groupsSpec_iff_eq_model`). The conclusion of
`C07_mergedOkB_sound` likewise pins down the merged ranges (`mergedSpec_iff_eq_model`).
-/
namespace BV

/-- the clauses `C07_goodGroupsB_sound` concludes (`GoodGroups xs gs`, field by field) -/
def GroupsSpec (xs : List Rec) (gs : List (List Rec)) : Prop :=
  gs.flatten = xs ∧
  (∀ g ∈ gs, g ≠ []) ∧
  (∀ g ∈ gs, ∀ a ∈ g, ∀ b ∈ g, a.chrom = b.chrom) ∧
  (∀ g ∈ gs, ∀ i (h : i + 1 < g.length), g[i+1].start ≤ runMaxEnd (g.take (i+1))) ∧
  (∀ i (h : i + 1 < gs.length), ∀ a ∈ gs[i], ∀ b ∈ gs[i+1], a.chrom ≠ b.chrom ∨ a.stop < b.start)

theorem groupsSpec_iff_goodGroups (xs : List Rec) (gs : List (List Rec)) :
    GroupsSpec xs gs ↔ GoodGroups xs gs :=
  ⟨fun ⟨h1, h2, h3, h4, h5⟩ => ⟨h1, h2, h3, h4, h5⟩,
   fun h => ⟨h.flatten, h.nonempty, h.oneChrom, h.chained, h.maximal⟩⟩

theorem groupsSpec_of_goodGroupsB (xs : List Rec) (gs : List (List Rec)) (h : goodGroupsB xs gs = true) :
    GroupsSpec xs gs :=
  (groupsSpec_iff_goodGroups xs gs).mpr (C07_goodGroupsB_sound xs gs h)

/-- the clauses of `GroupsSpec` other than the flattening -/
def GroupsLocal (gs : List (List Rec)) : Prop :=
  (∀ g ∈ gs, GoodGroup g) ∧ ∀ i (h : i + 1 < gs.length), ∀ a ∈ gs[i]'(Nat.lt_of_succ_lt h), ∀ b ∈ gs[i+1], sepR a b

theorem GroupsSpec.local {xs : List Rec} {gs : List (List Rec)} (h : GroupsSpec xs gs) : GroupsLocal gs :=
  ⟨fun g hg => ⟨h.2.1 g hg, h.2.2.1 g hg, h.2.2.2.1 g hg⟩, h.2.2.2.2⟩

theorem GroupsLocal.tail {g : List Rec} {gs : List (List Rec)} (h : GroupsLocal (g :: gs)) : GroupsLocal gs :=
  ⟨fun g' hg => h.1 g' (List.mem_cons_of_mem _ hg), fun i hi => h.2 (i + 1) (Nat.succ_lt_succ hi)⟩

/-- a group cannot continue with a record that is separated from every record of a non-empty prefix:
it chains onto the largest end of the prefix, on the same chromosome -/
theorem GoodGroup.not_sep_prefix {A t : List Rec} {x : Rec} (hg : GoodGroup (A ++ x :: t)) (hA : A ≠ [])
    (hsep : ∀ a ∈ A, sepR a x) : False := by
  obtain ⟨a0, A', rfl⟩ := List.exists_cons_of_ne_nil hA
  have hlen : A'.length + 1 < ((a0 :: A') ++ x :: t).length := by simp
  have h := hg.2.2 A'.length hlen
  have hx : ((a0 :: A') ++ x :: t)[A'.length + 1] = x := by
    rw [List.getElem_append_right (by simp)]
    simp
  have ht : ((a0 :: A') ++ x :: t).take (A'.length + 1) = a0 :: A' := List.take_left' rfl
  obtain ⟨m, hm, hms⟩ := List.mem_map.mp (listMax_mem (l := (a0 :: A').map (·.stop)) (List.cons_ne_nil _ _))
  rw [hx, ht, runMaxEnd, ← hms] at h
  rcases hsep m hm with h1 | h1
  · exact h1 (hg.2.1 m (List.mem_append_left _ hm) x (by simp))
  · exact Nat.lt_irrefl _ (Nat.lt_of_lt_of_le h1 h)

/-- the first group `A` of one grouping is not a proper prefix of the first group of another grouping
of the same records: the record after `A` opens the next group there, so it is separated from `A` -/
theorem first_group_not_longer {A t Y : List Rec} {x : Rec} {r₁ : List (List Rec)} (hL : GroupsLocal (A :: r₁))
    (hB : GoodGroup (A ++ x :: t)) (hX : r₁.flatten = (x :: t) ++ Y) : False := by
  have hne := fun g hg => (hL.tail.1 g hg).1
  obtain ⟨t', r', rfl⟩ : ∃ t' r', r₁ = (x :: t') :: r' := by
    match r₁, hne, hX with
    | [] :: _, hne, _ => exact absurd rfl (hne [] List.mem_cons_self)
    | (y :: t') :: r', _, hX => cases (List.cons.inj hX).1; exact ⟨t', r', rfl⟩
  exact hB.not_sep_prefix (hL.1 A List.mem_cons_self).1 fun a ha => hL.2 0 (by simp) a ha x List.mem_cons_self

theorem groupsLocal_unique : ∀ (g₁ g₂ : List (List Rec)), g₁.flatten = g₂.flatten →
    GroupsLocal g₁ → GroupsLocal g₂ → g₁ = g₂
  | [], [], _, _, _ => rfl
  | [], B :: r₂, hf, _, h₂ => by
    obtain ⟨b, B', rfl⟩ := List.exists_cons_of_ne_nil (h₂.1 B List.mem_cons_self).1
    cases hf
  | A :: r₁, [], hf, h₁, _ => by
    obtain ⟨a, A', rfl⟩ := List.exists_cons_of_ne_nil (h₁.1 A List.mem_cons_self).1
    cases hf
  | A :: r₁, B :: r₂, hf, h₁, h₂ => by
    rw [List.flatten_cons, List.flatten_cons] at hf
    have hAB : A = B := by
      rcases List.append_eq_append_iff.mp hf with ⟨a', hB, hX⟩ | ⟨c', hA, hY⟩
      · cases a' with
        | nil => rw [hB, List.append_nil]
        | cons x t => exact (first_group_not_longer h₁ (hB ▸ h₂.1 B List.mem_cons_self) hX).elim
      · cases c' with
        | nil => rw [hA, List.append_nil]
        | cons x t => exact (first_group_not_longer h₂ (hA ▸ h₁.1 A List.mem_cons_self) hY).elim
    subst hAB
    rw [groupsLocal_unique r₁ r₂ (List.append_cancel_left hf) h₁.tail h₂.tail]

/-- a grouping with the C07 clauses is determined by the input (sorted or not) -/
theorem groupsSpec_unique (xs : List Rec) (g₁ g₂ : List (List Rec)) (h₁ : GroupsSpec xs g₁)
    (h₂ : GroupsSpec xs g₂) : g₁ = g₂ :=
  groupsLocal_unique g₁ g₂ (h₁.1.trans h₂.1.symm) h₁.local h₂.local

/-- for sorted input the C07 clauses hold of exactly the model's grouping -/
theorem groupsSpec_iff_eq_model (xs : List Rec) (gs : List (List Rec)) (hs : SortedRecs xs) :
    GroupsSpec xs gs ↔ groups xs = .ok gs := by
  constructor
  · intro h
    obtain ⟨gs', hg, hG⟩ := groups_good xs hs
    rw [groupsSpec_unique xs gs gs' h ((groupsSpec_iff_goodGroups xs gs').mpr hG)]
    exact hg
  · intro hg
    exact (groupsSpec_iff_goodGroups xs gs).mpr (good_of_ok hs hg)

/-- the checker `goodGroupsB` accepts only the model's grouping (sorted input) -/
theorem goodGroupsB_eq_model (xs : List Rec) (gs : List (List Rec)) (hs : SortedRecs xs)
    (h : goodGroupsB xs gs = true) : groups xs = .ok gs :=
  (groupsSpec_iff_eq_model xs gs hs).mp (groupsSpec_of_goodGroupsB xs gs h)

/-- the clauses `C07_mergedOkB_sound` concludes -/
def MergedSpec (xs out : List Rec) (gs : List (List Rec)) : Prop :=
  out = gs.map mergeGroup ∧ SortedRecs out ∧
  (∀ i (hi : i + 1 < out.length), out[i].chrom ≠ out[i+1].chrom ∨ out[i].stop < out[i+1].start) ∧
  (∀ c p, coveredBy xs c p ↔ coveredBy out c p)

theorem mergedSpec_of_mergedOkB (xs out : List Rec) (gs : List (List Rec)) (h : mergedOkB xs out gs = true) :
    MergedSpec xs out gs := C07_mergedOkB_sound xs out gs h

/-- given the grouping, the merged-output clauses hold of exactly the model's output -/
theorem mergedSpec_iff_eq_model_of_groups (xs out : List Rec) (gs : List (List Rec)) (hs : SortedRecs xs)
    (hv : ∀ r ∈ xs, r.start ≤ r.stop) (hG : GroupsSpec xs gs) :
    MergedSpec xs out gs ↔ mergeSortedBed xs = .ok out := by
  have hg := (groupsSpec_iff_eq_model xs gs hs).mp hG
  have hG' := (groupsSpec_iff_goodGroups xs gs).mp hG
  constructor
  · intro h
    rw [h.1]
    exact mergeSortedBed_ok hg
  · intro h
    rw [mergeSortedBed_ok hg] at h
    cases h
    exact ⟨rfl, merged_ok hs hv hG' rfl⟩

/-- for sorted input: `out` is accepted together with some grouping iff it is the model's output -/
theorem mergedSpec_iff_eq_model (xs out : List Rec) (hs : SortedRecs xs) (hv : ∀ r ∈ xs, r.start ≤ r.stop) :
    (∃ gs, GroupsSpec xs gs ∧ MergedSpec xs out gs) ↔ mergeSortedBed xs = .ok out := by
  constructor
  · rintro ⟨gs, hG, hM⟩
    exact (mergedSpec_iff_eq_model_of_groups xs out gs hs hv hG).mp hM
  · intro h
    obtain ⟨gs, hg, hG⟩ := groups_good xs hs
    have hG' := (groupsSpec_iff_goodGroups xs gs).mpr hG
    exact ⟨gs, hG', (mergedSpec_iff_eq_model_of_groups xs out gs hs hv hG').mpr h⟩

/-- both checkers accept only the model's output (sorted input) -/
theorem mergedOkB_eq_model (xs out : List Rec) (gs : List (List Rec)) (hs : SortedRecs xs)
    (h₁ : goodGroupsB xs gs = true) (h₂ : mergedOkB xs out gs = true) : mergeSortedBed xs = .ok out := by
  have hg := goodGroupsB_eq_model xs gs hs h₁
  rw [(C07_mergedOkB_sound xs out gs h₂).1]
  exact mergeSortedBed_ok hg

#print axioms groupsSpec_of_goodGroupsB
#print axioms groupsSpec_unique
#print axioms groupsSpec_iff_eq_model
#print axioms goodGroupsB_eq_model
#print axioms mergedSpec_iff_eq_model_of_groups
#print axioms mergedSpec_iff_eq_model
#print axioms mergedOkB_eq_model

end BV
