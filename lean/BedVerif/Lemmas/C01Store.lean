import BedVerif.Model.SortStore
import BedVerif.Props.C01
import BedVerif.Props.C09
/-!
End-to-end behaviour of `sort_by` over a misbehaving storage (`Model/SortStore.lean`): composition of the
run formation (C01), the chunk dump behind `BufWriter` and the read-back through `BufReader` (C09) and the
k-way merge (C10).
-/
namespace BV
variable {α : Type}

/-- the serialisation contract (bincode + serde): decoding an encoding returns the value; payloads fit a u64 length -/
structure Codec (enc : α → Bytes) (dec : Bytes → Option α) : Prop where
  roundtrip : ∀ x, dec (enc x) = some x
  fits : ∀ x, (enc x).length < 2^64

theorem C01s_decode_map {enc : α → Bytes} {dec : Bytes → Option α} (hc : Codec enc dec) (l : List α) :
    ((l.map enc).map IoRes.ok).map (decodeItem dec) = l.map (Item.ok (ε := Unit)) := by
  induction l with
  | nil => rfl
  | cons a t ih =>
    simp only [List.map_cons, decodeItem, hc.roundtrip, ih]

theorem C01s_hasErr_snoc (dec : Bytes → Option α) (l : List (IoRes Bytes)) :
    hasErr ((l ++ [IoRes.err]).map (decodeItem dec)) = true :=
  C10.hasErr_iff.mpr ⟨(), by rw [List.map_append]; exact List.mem_append_right _ (List.mem_singleton_self _)⟩

/-- the outcome of one chunk: `create_chunk` fails only on a hard write error; otherwise the chunk is the
complete run, or it contains an error item and the read plan holds a hard error -/
def ChunkGood (f : RunFaults) (run : List α) : Option (List (Item Unit α)) → Prop
  | none => WFault.fail ∈ f.wplan
  | some c => c = run.map .ok ∨ (hasErr c = true ∧ RFault.fail ∈ f.rplan)

theorem C01s_chunkOfRun {enc : α → Bytes} {dec : Bytes → Option α} (hc : Codec enc dec)
    (f : RunFaults) (run : List α) : ChunkGood f run (chunkOfRun enc dec f run) := by
  have hd := dumpBuf_spec (run.map enc) ⟨f.wcap, [], ⟨[], f.wplan⟩⟩
  unfold chunkOfRun
  generalize dumpBuf ⟨f.wcap, [], ⟨[], f.wplan⟩⟩ (run.map enc) = q at hd ⊢
  obtain ⟨r, w⟩ := q
  cases r with
  | err => exact hd.err_mem
  | ok u =>
    have hfit : ∀ p ∈ run.map enc, p.length < 2^64 := by
      intro p hp
      obtain ⟨x, _, rfl⟩ := List.mem_map.mp hp
      exact hc.fits x
    have hdata : w.inner.data = frames (run.map enc) := hd.ok_good.1
    have hsp := chunkItemsBuf_spec (run.map enc) ⟨f.rcap, [], ⟨frames (run.map enc), f.rplan⟩⟩ rfl hfit
    rw [List.length_map] at hsp
    simp only [ChunkGood, hdata]
    rcases hsp with h | ⟨hf, k, _, h⟩
    · exact .inl (by rw [h, C01s_decode_map hc])
    · exact .inr ⟨by rw [h, C01s_hasErr_snoc], hf⟩

def ChunksGood (faults : Nat → RunFaults) (rs : List (List α)) : Option (List (List (Item Unit α))) → Prop
  | none => ∃ j, WFault.fail ∈ (faults j).wplan
  | some cs =>
    (cs = rs.map (fun r => r.map .ok) ∨ ∃ c ∈ cs, hasErr c = true) ∧
    (∀ c ∈ cs, hasErr c = true → ∃ j, RFault.fail ∈ (faults j).rplan)

theorem C01s_chunksOf {enc : α → Bytes} {dec : Bytes → Option α} (hc : Codec enc dec)
    (faults : Nat → RunFaults) (rs : List (List α)) :
    ∀ i, ChunksGood faults rs (chunksOf enc dec faults i rs) := by
  induction rs with
  | nil =>
    intro i
    simp only [chunksOf, ChunksGood]
    exact ⟨.inl rfl, fun c hc' => by cases hc'⟩
  | cons r rs ih =>
    intro i
    have h1 := C01s_chunkOfRun hc (faults i) r
    have h2 := ih (i + 1)
    unfold chunksOf
    generalize chunkOfRun enc dec (faults i) r = o1 at h1 ⊢
    generalize chunksOf enc dec faults (i + 1) rs = o2 at h2 ⊢
    cases o1 with
    | none => exact ⟨i, h1⟩
    | some c =>
      cases o2 with
      | none => exact h2
      | some cs =>
        simp only [Option.map_some, ChunksGood] at h1 h2 ⊢
        simp only [ChunkGood] at h1
        obtain ⟨h2a, h2b⟩ := h2
        refine ⟨?_, ?_⟩
        · rcases h1 with h1 | ⟨h1, _⟩
          · rcases h2a with h2a | ⟨c', hc', he⟩
            · left; rw [h1, h2a, List.map_cons]
            · right; exact ⟨c', List.mem_cons_of_mem _ hc', he⟩
          · right; exact ⟨c, List.mem_cons_self .., h1⟩
        · intro c' hc' he
          rcases List.mem_cons.mp hc' with rfl | hc'
          · rcases h1 with h1 | ⟨_, h1⟩
            · rw [h1, C10_aux_hasErr_false (C01_allOk_map_ok r)] at he; cases he
            · exact ⟨i, h1⟩
          · exact h2b c' hc' he

theorem C01s_chunksOf_ok {enc : α → Bytes} {dec : Bytes → Option α} (hc : Codec enc dec)
    (faults : Nat → RunFaults) (hw : ∀ i, ∀ f ∈ (faults i).wplan, f ≠ WFault.fail)
    (hr : ∀ i, ∀ f ∈ (faults i).rplan, f ≠ RFault.fail) (rs : List (List α)) (i : Nat) :
    chunksOf enc dec faults i rs = some (rs.map (fun r => r.map .ok)) := by
  have h := C01s_chunksOf hc faults rs i
  generalize chunksOf enc dec faults i rs = o at h ⊢
  cases o with
  | none =>
    obtain ⟨j, hj⟩ := h
    exact absurd rfl (hw j _ hj)
  | some cs =>
    obtain ⟨ha, hb⟩ := h
    rcases ha with ha | ⟨c, hc', he⟩
    · rw [ha]
    · obtain ⟨j, hj⟩ := hb c hc' he
      exact absurd rfl (hr j _ hj)

theorem C01s_merge_complete (cmp : α → α → Ordering) (h : TotalPreorder cmp)
    (srt : (α → α → Ordering) → List α → List α) (hsrt : SortSpec cmp (srt cmp)) (c : Nat) (xs : List α) :
    AllOk (drain cmp (((runs c xs).map (srt cmp)).map (fun r => r.map (Item.ok (ε := Unit))))).1 ∧
    (okItems (drain cmp (((runs c xs).map (srt cmp)).map (fun r => r.map (Item.ok (ε := Unit))))).1).Perm xs ∧
    (okItems (drain cmp (((runs c xs).map (srt cmp)).map (fun r => r.map (Item.ok (ε := Unit))))).1).Pairwise (le cmp) := by
  have := C01_sortBy (ε := Unit) cmp h srt hsrt (fun l => l.map .ok) (fun _ => rfl) c xs
  simp only [sortBy] at this
  rw [List.map_map]
  exact this.2

end BV
