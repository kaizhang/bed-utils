import BedVerif.Lemmas.C08Single
/-! C08: from one group to the whole output. -/
namespace BV.C08

def foldGroups (gs : List (List BG)) : Out (List BG) :=
  gs.foldr (fun g acc => match acc, bedgraphGroup g with
      | .ok rest, .ok o => .ok (o ++ rest)
      | _, _ => .panic) (.ok [])

theorem foldGroups_ok (gs : List (List BG)) (hok : ∀ g ∈ gs, ∃ c s e, GroupOK BG.toRec g c s e)
    (hne : ∀ g ∈ gs, ∀ b ∈ g, b.start < b.stop) (hsep : gs.Pairwise Apart) :
    ∃ out, foldGroups gs = .ok out ∧ Pointwise gs.flatten out := by
  induction gs with
  | nil => exact ⟨[], rfl, Pointwise.nil⟩
  | cons g gs ih =>
    have hps := List.pairwise_cons.mp hsep
    obtain ⟨out', f1, f2⟩ := ih (fun g' h => hok g' (List.mem_cons_of_mem _ h))
      (fun g' h => hne g' (List.mem_cons_of_mem _ h)) hps.2
    obtain ⟨c, s, e, hg⟩ := hok g List.mem_cons_self
    obtain ⟨o, o1, o2⟩ := bedgraphGroup_ok g c s e hg (hne g List.mem_cons_self)
    refine ⟨o ++ out', by unfold foldGroups at f1 ⊢; rw [List.foldr_cons, f1, o1], o2.append f2 ?_⟩
    intro a ha b hb
    obtain ⟨g', hg', hb'⟩ := List.mem_flatten.mp hb
    exact hps.1 g' hg' a ha b hb'

theorem main (xs : List BG) (hs : SortedBGs xs) (hne : ∀ b ∈ xs, b.start < b.stop) :
    ∃ out, mergeSortedBedgraph xs = .ok out ∧ BedgraphSpec xs out := by
  obtain ⟨gs, k1, k2, k3, k4⟩ := groupsOf_ok BG.toRec xs hs
  have hsep : gs.Pairwise Apart := by
    refine k3.imp fun h a ha b hb => ?_
    have := h _ (List.mem_map_of_mem ha) _ (List.mem_map_of_mem hb)
    exact ⟨compare_chrom this.1, this.2⟩
  obtain ⟨out, f1, f2⟩ := foldGroups_ok gs k2
    (fun g hg b hb => hne b (k4 ▸ List.mem_flatten.mpr ⟨g, hg, hb⟩)) hsep
  refine ⟨out, ?_, (k4 ▸ f2).spec⟩
  unfold mergeSortedBedgraph
  rw [k1]
  exact f1

end BV.C08
