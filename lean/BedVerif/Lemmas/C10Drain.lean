import BedVerif.Lemmas.C10Step
/-!
Induction over a whole run of the merger (`drainAux_rec`, `drain_rec`) and the one theorem about `drain`
(`drain_spec`) of which the statements of `Props/C10.lean` are special cases.
-/
namespace BV.C10
variable {ε α : Type}

theorem next_measure {cmp : α → α → Ordering} {m m' : Merger ε α} {x : Item ε α}
    (h : m.next cmp = (some x, m')) : (A m').length < (A m).length := by
  cases x with
  | ok v =>
    rw [(next_ok h).1.length_eq]
    exact Nat.lt_succ_self _
  | err e =>
    obtain ⟨d, hd⟩ := next_err h
    rw [hd.length_eq, List.length_cons, List.length_append]
    exact Nat.lt_succ_of_le (Nat.le_add_left _ _)

/-- `P m out mf`: from `m` the merger delivers `out` and ends in `mf`. Every `next` that delivers takes an item out
of `A m`, so more fuel than `A m` is long is enough. -/
theorem drainAux_rec (cmp : α → α → Ordering) {P : Merger ε α → List (Item ε α) → Merger ε α → Prop}
    (stop : ∀ m m', m.next cmp = (none, m') → P m [] m')
    (emit : ∀ m x m' out mf, m.next cmp = (some x, m') → P m' out mf → P m (x :: out) mf) :
    ∀ (fuel : Nat) (m : Merger ε α) (acc : List (Item ε α)), (A m).length < fuel →
      ∃ out, (drainAux cmp fuel m acc).1 = acc.reverse ++ out ∧ P m out (drainAux cmp fuel m acc).2
  | 0, m, acc, hf => by omega
  | fuel+1, m, acc, hf => by
    rcases hn : m.next cmp with ⟨_ | x, m'⟩
    · exact ⟨[], by simp only [drainAux, hn, List.append_nil], by simpa only [drainAux, hn] using stop m m' hn⟩
    · obtain ⟨out, h1, h2⟩ := drainAux_rec cmp stop emit fuel m' (x :: acc) (by have := next_measure hn; omega)
      refine ⟨x :: out, ?_, ?_⟩
      · simp only [drainAux, hn, h1, List.reverse_cons, List.append_assoc, List.singleton_append]
      · simp only [drainAux, hn]
        exact emit m x m' out _ hn h2

theorem drain_rec (cmp : α → α → Ordering) (chunks : List (List (Item ε α)))
    {P : Merger ε α → List (Item ε α) → Merger ε α → Prop}
    (stop : ∀ m m', m.next cmp = (none, m') → P m [] m')
    (emit : ∀ m x m' out mf, m.next cmp = (some x, m') → P m' out mf → P m (x :: out) mf) :
    P (Merger.new chunks) (drain cmp chunks).1 (drain cmp chunks).2 := by
  obtain ⟨out, h1, h2⟩ := drainAux_rec cmp stop emit ((chunks.map List.length).sum + chunks.length + 2)
    (Merger.new chunks) [] (by simp only [A, Merger.new, List.map_nil, List.nil_append, List.length_flatten]; omega)
  unfold drain
  rw [h1]
  exact h2

/-- What a drained merger delivers, whatever the chunks hold. `lost`: what an error leaves undelivered, the popped
item it displaces included. -/
theorem drain_spec (cmp : α → α → Ordering) (chunks : List (List (Item ε α))) :
    (drain cmp chunks).2.next cmp = (none, (drain cmp chunks).2) ∧
    (∃ lost, chunks.flatten.Perm ((drain cmp chunks).1 ++ lost) ∧ (hasErr (drain cmp chunks).1 = false → lost = [])) ∧
    (TotalPreorder cmp → (∀ c ∈ chunks, (okItems c).Pairwise (le cmp)) →
      (beforeFirstErr (drain cmp chunks).1).Pairwise (le cmp)) := by
  have := drain_rec cmp chunks
    (P := fun m out mf => mf.next cmp = (none, mf) ∧
      (∃ lost, (A m).Perm (out ++ lost) ∧ (W m → hasErr out = false → lost = [])) ∧
      (TotalPreorder cmp → W m → Ord cmp m → (beforeFirstErr out).Pairwise (le cmp)))
    (fun m m' hn => ⟨(next_none hn).1, ⟨A m, .refl _, fun hw _ => (next_none hn).2 hw⟩, fun _ _ _ => .nil⟩)
    (by
      intro m x m' out mf hn ⟨hend, ⟨lost, hp, hl⟩, hsort⟩
      refine ⟨hend, ?_⟩
      cases x with
      | ok v =>
        obtain ⟨hv, hinv⟩ := next_ok hn
        have hw' (hw : W m) : W m' := fun _ => (hinv hw).2.1
        refine ⟨⟨lost, hv.trans (hp.cons _), fun hw he => hl (hw' hw) (by simpa using he)⟩, ?_⟩
        intro hcmp hw ho
        obtain ⟨ho', hmin⟩ := (hinv hw).2.2 hcmp ho
        refine List.pairwise_cons.mpr ⟨fun b hb => hmin b ?_, hsort hcmp (hw' hw) ho'⟩
        -- what is delivered later is still inside now
        have : Item.ok b ∈ A m' := hp.symm.subset (List.mem_append_left _ (mem_beforeFirstErr hb))
        exact mem_okItems.mpr (hv.symm.subset (List.mem_cons_of_mem _ this))
      | err e =>
        obtain ⟨d, hd⟩ := next_err hn
        refine ⟨⟨d ++ lost, hd.trans (.cons _ ?_), fun _ he => by simp at he⟩, fun _ _ _ => .nil⟩
        exact (hp.append_left d).trans (List.perm_append_comm_assoc d out lost))
  obtain ⟨hend, ⟨lost, hp, hl⟩, hsort⟩ := this
  refine ⟨hend, ⟨lost, by simpa [A, Merger.new] using hp, hl nofun⟩, fun hcmp hs => hsort hcmp nofun fun i c hc => ?_⟩
  exact ⟨hs c (List.mem_of_getElem? hc), nofun⟩

theorem complete (cmp : α → α → Ordering) (chunks : List (List (Item ε α)))
    (hno : hasErr (drain cmp chunks).1 = false) :
    (okItems (drain cmp chunks).1).Perm (okItems chunks.flatten) := by
  obtain ⟨lost, hp, hl⟩ := (drain_spec cmp chunks).2.1
  rw [hl hno, List.append_nil] at hp
  exact okItems_perm hp.symm

end BV.C10
