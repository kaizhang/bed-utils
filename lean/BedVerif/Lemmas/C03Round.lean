import BedVerif.Lemmas.C03Cols
/-! C03 helpers: all columns are clean; the round trip per record type -/
namespace BV
namespace C03
variable {F : Type}

theorem forall_mem_opt {c : Prop} [Decidable c] {P : Bytes → Prop} {a : Bytes} (h : P a) :
    ∀ f ∈ (if c then [a] else []), P f := by
  split
  · exact List.forall_mem_singleton.2 h
  · exact List.forall_mem_nil _

/-- every column is clean as soon as the chromosome, the name and the rendered floats are -/
theorem cols_clean (fc : FloatCodec F) (hfc : ∀ v, Clean (fc.render v)) (ty : Ty) (x : TRec F)
    (hc : Clean x.chrom) (hn : ∀ nm, x.name = some nm → Clean nm) : ∀ f ∈ columnsT fc ty x, Clean f := by
  have hname := Clean_optCol x.name hn
  have hbase : Clean x.chrom ∧ Clean (showNat x.start) ∧ Clean (showNat x.stop) :=
    ⟨hc, Clean_showNat _, Clean_showNat _⟩
  cases ty
  all_goals simp only [columnsT, List.forall_mem_append, List.forall_mem_cons, List.not_mem_nil, false_imp_iff,
    implies_true, and_true]
  case gr => exact hbase
  case bed n => exact ⟨⟨⟨hbase, forall_mem_opt hname⟩, forall_mem_opt (Clean_score _)⟩, forall_mem_opt (Clean_strand _)⟩
  case narrowPeak => exact ⟨hbase, hname, Clean_score _, Clean_strand _, hfc _, hfc _, hfc _, Clean_showNat _⟩
  case broadPeak => exact ⟨hbase, hname, Clean_score _, Clean_strand _, hfc _, hfc _, hfc _⟩
  case bgInt => exact ⟨hbase, Clean_showInt _⟩
  case bgFloat => exact ⟨hbase, hfc _⟩

/-- a formatted record is a single line as soon as its chromosome, its name and the rendered floats are clean -/
theorem single_line_of_clean (fc : FloatCodec F) (hfc : ∀ v, Clean (fc.render v)) (ty : Ty) (x : TRec F)
    (hc : Clean x.chrom) (hn : ∀ nm, x.name = some nm → Clean nm) :
    LF ∉ showT fc ty x ∧ CR ∉ showT fc ty x := by
  have hcl := cols_clean fc hfc ty x hc hn
  have key : ∀ c ∈ showT fc ty x, c = TAB ∨ ∃ f ∈ columnsT fc ty x, c ∈ f := by
    rw [layout]
    exact mem_intercalate TAB _
  exact ⟨fun hm => (key _ hm).elim (by decide) fun ⟨f, hf, h⟩ => (hcl f hf).2.1 h,
    fun hm => (key _ hm).elim (by decide) fun ⟨f, hf, h⟩ => (hcl f hf).2.2 h⟩

theorem name_clean_of_WF {fc : FloatCodec F} {ty : Ty} {x : TRec F} (hwf : WF fc ty x) :
    ∀ nm, x.name = some nm → Clean nm := by
  obtain ⟨-, -, -, h⟩ := hwf
  cases ty with
  | gr => intro nm hn; rw [h.2.2.1] at hn; cases hn
  | bed n => exact fun nm hn => (h.2.1.1 nm hn).1
  | narrowPeak | broadPeak => exact fun nm hn => (h.1.1 nm hn).1
  | bgInt | bgFloat => intro nm hn; rw [h.1] at hn; cases hn

theorem cols_ne_nil (fc : FloatCodec F) (ty : Ty) (x : TRec F) : columnsT fc ty x ≠ [] := by
  cases ty <;> exact List.cons_ne_nil _ _

/-- the TAB split of the formatted record is its column list -/
theorem split_showT (fc : FloatCodec F) (hfc : fc.Lawful) (ty : Ty) (x : TRec F) (hwf : WF fc ty x) :
    splitOn (· == TAB) (showT fc ty x) = columnsT fc ty x := by
  rw [layout]
  exact split_intercalate_tab _ (cols_ne_nil fc ty x)
    fun f hf => (cols_clean fc hfc.clean ty x hwf.1 (name_clean_of_WF hwf) f hf).1

theorem not_delim {c : UInt8} (h1 : c ≠ TAB) (h2 : c ≠ COLON) (h3 : c ≠ DASH) :
    (c == TAB || c == COLON || c == DASH) = false := by
  show (decide (c = TAB) || decide (c = COLON) || decide (c = DASH)) = false
  rw [decide_eq_false h1, decide_eq_false h2, decide_eq_false h3]
  rfl

/-- `GenomicRange::from_str` splits at TAB, `:` and `-` alike: any two of them may separate the fields -/
theorem rt_gr_delims (fc : FloatCodec F) (x : TRec F) (hwf : WF fc .gr x) (s1 s2 : UInt8)
    (h1 : (s1 == TAB || s1 == COLON || s1 == DASH) = true) (h2 : (s2 == TAB || s2 == COLON || s2 == DASH) = true) :
    parseT fc .gr (x.chrom ++ [s1] ++ showNat x.start ++ [s2] ++ showNat x.stop) = .ok x := by
  obtain ⟨chrom, start, stop, name, score, strand, signal, p, q, peak, ival⟩ := x
  obtain ⟨hc, hs, he, hcolon, hdash, rfl, rfl, rfl, rfl, rfl, rfl, rfl, rfl⟩ := hwf
  have hchrom : ∀ c ∈ chrom, (c == TAB || c == COLON || c == DASH) = false := fun c hm =>
    not_delim (fun e => hc.1 (e ▸ hm)) (fun e => hcolon (e ▸ hm)) (fun e => hdash (e ▸ hm))
  have hnum : ∀ n : Nat, ∀ c ∈ showNat n, (c == TAB || c == COLON || c == DASH) = false := fun n c hm =>
    have h := (showNat_decimal n).mem_digit c hm
    not_delim (isDigit_ne h rfl) (isDigit_ne h rfl) (isDigit_ne h rfl)
  simp only [parseT, List.append_assoc, List.cons_append, List.nil_append]
  rw [splitOn_sep _ _ _ _ hchrom h1, splitOn_sep _ _ _ _ (hnum start) h2, splitOn_single _ _ (hnum stop)]
  simp only [pChrom_cons, bindP_ok, pStart_show _ _ hs, pEnd_show _ _ he]

theorem rt_gr (fc : FloatCodec F) (x : TRec F) (hwf : WF fc .gr x) :
    parseT fc .gr (showT fc .gr x) = .ok x :=
  rt_gr_delims fc x hwf TAB TAB rfl rfl

theorem rt_bgInt (fc : FloatCodec F) (hfc : fc.Lawful) (x : TRec F) (hwf : WF fc .bgInt x) :
    parseT fc .bgInt (showT fc .bgInt x) = .ok x := by
  have hsp := split_showT fc hfc _ x hwf
  obtain ⟨chrom, start, stop, name, score, strand, signal, p, q, peak, ival⟩ := x
  obtain ⟨hc, hs, he, rfl, rfl, rfl, rfl, rfl, rfl, rfl, v, rfl, hv⟩ := hwf
  simp only [parseT, hsp, columnsT, List.cons_append, List.nil_append, Option.getD_some]
  simp only [pChrom_cons, bindP_ok, pStart_show _ _ hs, pEnd_show _ _ he, pI64_show _ _ hv]

theorem rt_bgFloat (fc : FloatCodec F) (hfc : fc.Lawful) (x : TRec F) (hwf : WF fc .bgFloat x) :
    parseT fc .bgFloat (showT fc .bgFloat x) = .ok x := by
  have hsp := split_showT fc hfc _ x hwf
  obtain ⟨chrom, start, stop, name, score, strand, signal, p, q, peak, ival⟩ := x
  obtain ⟨hc, hs, he, rfl, rfl, rfl, ⟨v, rfl, hv⟩, rfl, rfl, rfl, rfl⟩ := hwf
  simp only [parseT, hsp, columnsT, List.cons_append, List.nil_append, Option.getD_some]
  simp only [pChrom_cons, bindP_ok, pStart_show _ _ hs, pEnd_show _ _ he, pFloat_show fc hfc _ _ hv]

theorem rt_narrowPeak (fc : FloatCodec F) (hfc : fc.Lawful) (x : TRec F) (hwf : WF fc .narrowPeak x) :
    parseT fc .narrowPeak (showT fc .narrowPeak x) = .ok x := by
  have hsp := split_showT fc hfc _ x hwf
  obtain ⟨chrom, start, stop, name, score, strand, signal, p, q, peak, ival⟩ := x
  obtain ⟨hc, hs, he, ⟨hname, hscore, -⟩, ⟨v, rfl, hv⟩, hp, hq, ⟨k, rfl, hk⟩, rfl⟩ := hwf
  simp only [parseT, hsp, columnsT, List.cons_append, List.nil_append, Option.getD_some]
  simp only [pChrom_cons, bindP_ok, pStart_show _ _ hs, pEnd_show _ _ he, pName_show _ _ hname,
    pScore_show _ _ hscore, pStrand_show, pFloat_show fc hfc _ _ hv, pPValue_show fc hfc _ _ hp,
    pPValue_show fc hfc _ _ hq, pPeak_show _ _ hk]

theorem rt_broadPeak (fc : FloatCodec F) (hfc : fc.Lawful) (x : TRec F) (hwf : WF fc .broadPeak x) :
    parseT fc .broadPeak (showT fc .broadPeak x) = .ok x := by
  have hsp := split_showT fc hfc _ x hwf
  obtain ⟨chrom, start, stop, name, score, strand, signal, p, q, peak, ival⟩ := x
  obtain ⟨hc, hs, he, ⟨hname, hscore, -⟩, ⟨v, rfl, hv⟩, hp, hq, rfl, rfl⟩ := hwf
  simp only [parseT, hsp, columnsT, List.cons_append, List.nil_append, Option.getD_some]
  simp only [pChrom_cons, bindP_ok, pStart_show _ _ hs, pEnd_show _ _ he, pName_show _ _ hname,
    pScore_show _ _ hscore, pStrand_show, pFloat_show fc hfc _ _ hv, pPValue_show fc hfc _ _ hp,
    pPValue_show fc hfc _ _ hq]

theorem rt_bed (fc : FloatCodec F) (hfc : fc.Lawful) (n : Nat) (x : TRec F) (hwf : WF fc (.bed n) x) :
    parseT fc (.bed n) (showT fc (.bed n) x) = .ok x := by
  have hsp := split_showT fc hfc _ x hwf
  obtain ⟨chrom, start, stop, name, score, strand, signal, p, q, peak, ival⟩ := x
  obtain ⟨hc, hs, he, -, ⟨hname, hscore, hn3, hn4, hn5⟩, rfl, rfl, rfl, rfl, rfl⟩ := hwf
  simp only at hname hscore hn3 hn4 hn5
  simp only [parseT, hsp, columnsT, List.cons_append, List.nil_append, List.append_assoc, pChrom_cons, bindP_ok,
    pStart_show _ _ hs, pEnd_show _ _ he]
  rw [opt_col_show _ _ _ _ _ _ rfl (pName_show _ _ hname) fun h => hn3 (Nat.le_of_not_lt h), bindP_ok,
    opt_col_show _ _ _ _ _ _ rfl (pScore_show _ _ hscore) fun h => hn4 (Nat.le_of_not_lt h), bindP_ok,
    opt_col_show _ _ _ _ _ _ (List.append_nil _).symm (pStrand_show _ _) fun h => hn5 (Nat.le_of_not_lt h), bindP_ok]

end C03
end BV
