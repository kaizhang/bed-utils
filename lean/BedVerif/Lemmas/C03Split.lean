import BedVerif.Spec.Text
/-! C03 helpers: `splitOn` / `intercalate` -/
namespace BV
namespace C03

theorem splitOn_ne_nil (d : UInt8 → Bool) (s : Bytes) : splitOn d s ≠ [] := by
  cases s with
  | nil => exact List.cons_ne_nil _ _
  | cons c cs =>
    rw [splitOn]
    split
    · exact List.cons_ne_nil _ _
    · split <;> exact List.cons_ne_nil _ _

theorem splitOn_append (d : UInt8 → Bool) (sep : UInt8) (hsep : d sep = true) (s extra : Bytes) :
    splitOn d (s ++ sep :: extra) = splitOn d s ++ splitOn d extra := by
  induction s with
  | nil =>
    rw [List.nil_append, splitOn, splitOn]
    cases hx : splitOn d extra with
    | nil => exact absurd hx (splitOn_ne_nil d extra)
    | cons p ps => simp only [hsep, if_true]; rfl
  | cons c cs ih =>
    rw [List.cons_append, splitOn, ih, splitOn]
    cases hx : splitOn d cs with
    | nil => exact absurd hx (splitOn_ne_nil d cs)
    | cons p ps => simp only [List.cons_append]; split <;> rfl

theorem splitOn_single (d : UInt8 → Bool) (f : Bytes) (h : ∀ c ∈ f, d c = false) : splitOn d f = [f] := by
  induction f with
  | nil => rfl
  | cons c f ih =>
    rw [splitOn, ih (fun x hx => h x (List.mem_cons_of_mem _ hx))]
    simp [h c (List.mem_cons_self)]

theorem splitOn_sep (d : UInt8 → Bool) (f : Bytes) (sep : UInt8) (rest : Bytes)
    (h : ∀ c ∈ f, d c = false) (hs : d sep = true) :
    splitOn d (f ++ sep :: rest) = f :: splitOn d rest := by
  rw [splitOn_append d sep hs, splitOn_single d f h]; rfl

theorem intercalate_cons_cons (sep : UInt8) (x y : Bytes) (xs : List Bytes) :
    intercalate [sep] (x :: y :: xs) = x ++ sep :: intercalate [sep] (y :: xs) := by
  rw [intercalate, List.append_assoc]; rfl

/-- `intercalate`, written from left to right as `Display` writes -/
theorem intercalate_cons (sep x : Bytes) (xs : List Bytes) :
    intercalate sep (x :: xs) = xs.foldl (fun acc y => acc ++ sep ++ y) x := by
  have pull : ∀ (ys : List Bytes) (p y : Bytes),
      ys.foldl (fun acc y => acc ++ sep ++ y) (p ++ y) = p ++ ys.foldl (fun acc y => acc ++ sep ++ y) y := by
    intro ys
    induction ys with
    | nil => intro p y; rfl
    | cons z zs ih => intro p y; rw [List.foldl_cons, List.foldl_cons, List.append_assoc p, List.append_assoc p, ih]
  induction xs generalizing x with
  | nil => rfl
  | cons y ys ih => rw [intercalate, ih, List.foldl_cons, pull]

theorem splitOn_intercalate (d : UInt8 → Bool) (sep : UInt8) (hs : d sep = true) (fs : List Bytes) (hne : fs ≠ [])
    (h : ∀ f ∈ fs, ∀ c ∈ f, d c = false) : splitOn d (intercalate [sep] fs) = fs := by
  induction fs with
  | nil => exact absurd rfl hne
  | cons x xs ih =>
    cases xs with
    | nil => simp only [intercalate]; exact splitOn_single d x (h x (List.mem_cons_self))
    | cons y ys =>
      rw [intercalate_cons_cons, splitOn_sep d x sep _ (h x (List.mem_cons_self)) hs,
        ih (by simp) (fun f hf => h f (List.mem_cons_of_mem _ hf))]

theorem split_intercalate_tab (fs : List Bytes) (hne : fs ≠ []) (h : ∀ f ∈ fs, TAB ∉ f) :
    splitOn (· == TAB) (intercalate [TAB] fs) = fs :=
  splitOn_intercalate (· == TAB) TAB rfl fs hne fun f hf _ hc => decide_eq_false fun he => h f hf (he ▸ hc)

theorem mem_intercalate (sep : UInt8) (fs : List Bytes) (c : UInt8) (h : c ∈ intercalate [sep] fs) :
    c = sep ∨ ∃ f ∈ fs, c ∈ f := by
  induction fs with
  | nil => simp [intercalate] at h
  | cons x xs ih =>
    cases xs with
    | nil => simp only [intercalate] at h; exact Or.inr ⟨x, List.mem_cons_self, h⟩
    | cons y ys =>
      rw [intercalate_cons_cons, List.mem_append, List.mem_cons] at h
      rcases h with h | h | h
      · exact Or.inr ⟨x, List.mem_cons_self, h⟩
      · exact Or.inl h
      · rcases ih h with h | ⟨f, hf, hc⟩
        · exact Or.inl h
        · exact Or.inr ⟨f, List.mem_cons_of_mem _ hf, hc⟩

end C03
end BV
