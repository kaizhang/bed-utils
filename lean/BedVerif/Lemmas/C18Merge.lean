import BedVerif.Lemmas.CoverVocab
import BedVerif.Lemmas.LapperInv
import BedVerif.Lemmas.LapperSeek
/-! The stack loop of `merge_overlaps` on lists: what it covers, and when it changes nothing. -/
namespace BV
namespace C18h
variable {α : Type}

theorem mergeStep_cons (top : Iv α) (rest : List (Iv α)) (iv : Iv α) :
    mergeStep (top :: rest) iv =
      if top.stop < iv.start then iv :: top :: rest
      else if top.stop < iv.stop then { top with stop := iv.stop } :: rest else top :: rest := rfl

/-- one step of the loop adds what `iv` covers, provided the top does not start after `iv` -/
theorem mergeStep_covered {acc : List (Iv α)} {iv : Iv α} (h : ∀ top ∈ acc.head?, top.start ≤ iv.start) (p : Nat) :
    covered (mergeStep acc iv) p ↔ covered acc p ∨ iv.covers p = true := by
  cases acc with
  | nil => rw [mergeStep, covered_cons_iff]; exact or_comm
  | cons top t =>
    have htiv := h top rfl
    rw [mergeStep_cons]
    split
    · rw [covered_cons_iff]; exact or_comm
    · split
      · -- the top is extended: it covers what it covered and what `iv` covers
        have hc : ({ top with stop := iv.stop } : Iv α).covers p = true ↔ top.covers p = true ∨ iv.covers p = true := by
          simp only [Iv.covers_iff]; omega
        rw [covered_cons_iff, covered_cons_iff, hc, or_right_comm]
      · -- `iv` lies inside the top
        refine ⟨Or.inl, fun hp => hp.elim id fun hp => ⟨top, List.mem_cons_self, ?_⟩⟩
        rw [Iv.covers_iff] at hp ⊢
        omega

theorem mergeFold_covered {l acc : List (Iv α)} (h : MSep acc l) (hs : SortedStart l) (p : Nat) :
    covered (l.foldl mergeStep acc) p ↔ covered acc p ∨ covered l p := by
  induction l generalizing acc with
  | nil => exact (or_iff_left (covered_nil p)).symm
  | cons a t ih =>
    have hp := List.pairwise_cons.mp hs
    rw [List.foldl_cons, ih (mergeStep_sep h hp.1) hp.2,
      mergeStep_covered (fun top ht => h.top_le top ht a List.mem_cons_self), covered_cons_iff, or_assoc]

/-- merging a start-sorted list (empty and inverted intervals included) leaves exactly the same positions covered -/
theorem mergeList_covered {l : List (Iv α)} (hs : SortedStart l) (p : Nat) : covered (mergeList l) p ↔ covered l p := by
  rw [mergeList, covered_perm_iff (List.reverse_perm _),
    mergeFold_covered ⟨List.Pairwise.nil, fun _ h => nomatch h⟩ hs]
  exact or_iff_right (covered_nil p)

theorem mergeList_canonical (l : List (Iv α)) (hs : SortedStart l) (hne : ∀ iv ∈ l, iv.start < iv.stop) :
    Canonical (mergeList l) ∧ ∀ p, covered (mergeList l) p ↔ covered l p :=
  ⟨⟨mergeList_forall (Q := fun iv => iv.start < iv.stop) (fun _ _ h he => Nat.lt_trans h he) hne, mergeList_sep hs⟩,
    mergeList_covered hs⟩

/-- the loop pushes every interval of a separated list -/
theorem mergeFold_of_sep (l acc : List (Iv α)) (h : l.Pairwise (fun a b => a.stop < b.start))
    (ht : ∀ top ∈ acc.head?, ∀ iv ∈ l, top.stop < iv.start) : l.foldl mergeStep acc = l.reverse ++ acc := by
  induction l generalizing acc with
  | nil => rfl
  | cons a t ih =>
    have hp := List.pairwise_cons.mp h
    have hstep : mergeStep acc a = a :: acc := by
      cases acc with
      | nil => rfl
      | cons top r => rw [mergeStep_cons, if_pos (ht top rfl a List.mem_cons_self)]
    rw [List.foldl_cons, hstep, ih (a :: acc) hp.2 (fun top htop => by cases htop; exact hp.1),
      List.reverse_cons, List.append_assoc, List.singleton_append]

end C18h
end BV
