import BedVerif.Lemmas.FastCover
/-!
Fast (O(n log n)) evaluation of the specification-level counts `coveredCount`, `unionCount`,
`interCount`, proved equal to them for every input (empty and inverted intervals included).
-/
namespace BV
variable {α : Type}

/-- total length of a cover -/
def coverLen (c : List (Nat × Nat)) : Nat := (c.map (fun x => x.2 - x.1)).sum

/-- number of covered positions in O(n log n) -/
def fastCov (l : List (Iv α)) : Nat := coverLen (fastCover l)

def fastUnion {β : Type} (a : List (Iv α)) (b : List (Iv β)) : Nat :=
  fastCov ((a.map fun i => (⟨i.start, i.stop, ()⟩ : Iv Unit)) ++ (b.map fun i => (⟨i.start, i.stop, ()⟩ : Iv Unit)))

def fastInter {β : Type} (a : List (Iv α)) (b : List (Iv β)) : Nat := fastCov a + fastCov b - fastUnion a b

theorem fastCov_eq_coveredCount (l : List (Iv α)) : fastCov l = coveredCount l := by
  obtain ⟨L, h, hc, hcov⟩ := fastCover_spec l
  rw [fastCov, h, ← coveredCount_congr hcov, coveredCount_separated L hc.2, coverLen, List.map_map]
  rfl

theorem coverLen_canonicalCover (l : List (Iv α)) : coverLen (canonicalCover l) = coveredCount l := by
  rw [← fastCover_eq_canonicalCover]; exact fastCov_eq_coveredCount l

theorem coveredB_strip (a : List (Iv α)) (p : Nat) :
    coveredB (a.map fun i => (⟨i.start, i.stop, ()⟩ : Iv Unit)) p = coveredB a p := by
  simp only [coveredB, List.any_map]
  rfl

theorem fastUnion_eq_unionCount {β : Type} (a : List (Iv α)) (b : List (Iv β)) : fastUnion a b = unionCount a b := by
  rw [fastUnion, fastCov_eq_coveredCount]
  exact cnt_ext (coveredB_lt (maxStop_ge _)) (coveredB_or_lt a b) fun p => by
    rw [coveredB_append, coveredB_strip, coveredB_strip]

theorem fastInter_eq_interCount {β : Type} (a : List (Iv α)) (b : List (Iv β)) : fastInter a b = interCount a b := by
  rw [fastInter, fastUnion_eq_unionCount, fastCov_eq_coveredCount, fastCov_eq_coveredCount]
  have := unionCount_add_interCount a b
  omega

#print axioms fastCov_eq_coveredCount
#print axioms fastUnion_eq_unionCount
#print axioms fastInter_eq_interCount

end BV
