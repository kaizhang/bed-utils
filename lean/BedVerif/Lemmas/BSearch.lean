import BedVerif.Model.Lapper
import BedVerif.Lemmas.Sort
/-! Every search loop of `intervaltree.rs` (`bsearch_seq_ref` as repaired, `lower_bound`, the skip
loop of `count`) looks for the partition point of a predicate that holds on a prefix of the slice
and nowhere else. Stated against an arbitrary such point, each loop needs index arithmetic only;
on a slice along which the predicate is prefix-closed — a sorted one — the point is `countP`. -/
namespace BV
variable {β κ α : Type}

def PartPt (P : β → Bool) (l : Array β) (n : Nat) : Prop :=
  n ≤ l.size ∧ ∀ i (h : i < l.size), P l[i] = true ↔ i < n

theorem PrefixClosed.partPt {P : β → Bool} {l : Array β} (h : PrefixClosed P l.toList) :
    PartPt P l (l.toList.countP P) :=
  ⟨List.countP_le_length, fun i hi => idx_lt_countP h i hi⟩

theorem mid_bounds {low high : Nat} (h : high - low > 1) : low < (high + low) / 2 ∧ (high + low) / 2 < high := by
  omega

theorem sub_half_le (size : Nat) : size - size / 2 ≤ size / 2 + 1 := by omega

/-- the bracket `(low, high]` always contains the partition point -/
theorem bsLoop_eq {cmp : κ → κ → Ordering} {key : κ} {l : Array κ} {n : Nat}
    (hn : PartPt (fun x => cmp x key == .lt) l n) :
    ∀ fuel low high, high ≤ low + fuel + 1 → low < n → n ≤ high → high ≤ l.size →
      bsLoop cmp key l fuel low high = n := by
  intro fuel
  induction fuel with
  | zero => exact fun low high hf hlo hhi _ => Nat.le_antisymm (Nat.le_trans hf hlo) hhi
  | succ f ih =>
    intro low high hf hlo hhi hsz
    rw [bsLoop]
    by_cases hgap : high - low > 1
    · have ⟨h1, h2⟩ := mid_bounds hgap
      generalize (high + low) / 2 = mid at h1 h2 ⊢
      have hin := Nat.lt_of_lt_of_le h2 hsz
      simp only [if_pos hgap, Array.getElem?_eq_getElem hin, hn.2 _ hin]
      by_cases hm : mid < n
      · rw [if_pos hm]
        exact ih _ _ (by omega) hm hhi hsz
      · rw [if_neg hm]
        exact ih _ _ (by omega) hlo (Nat.le_of_not_lt hm) (Nat.le_of_lt hin)
    · rw [if_neg hgap]
      omega

theorem bsearchSeq_eq {cmp : κ → κ → Ordering} {key : κ} {l : Array κ} {n : Nat}
    (hn : PartPt (fun x => cmp x key == .lt) l n) : bsearchSeq cmp key l = n := by
  unfold bsearchSeq
  by_cases h0 : 0 < l.size
  · have h := hn.2 0 h0
    rw [Array.getElem?_eq_getElem h0]
    by_cases hlt : (cmp l[0] key == .lt) = true
    · simp only [bne, hlt, Bool.not_true, Bool.false_eq_true, if_false]
      exact bsLoop_eq hn _ _ _ (by omega) (h.mp hlt) hn.1 (Nat.le_refl _)
    · simp only [bne, hlt, Bool.not_false, if_true]
      exact (Nat.eq_zero_of_not_pos (mt h.mpr hlt)).symm
  · rw [Array.getElem?_eq_none (Nat.le_of_not_lt h0)]
    exact (Nat.le_zero.mp (Nat.le_trans hn.1 (Nat.le_of_not_lt h0))).symm

theorem bsearchSeq_countP {cmp : κ → κ → Ordering} {key : κ} {l : Array κ}
    (h : PrefixClosed (fun x => cmp x key == .lt) l.toList) :
    bsearchSeq cmp key l = l.toList.countP (fun x => cmp x key == .lt) :=
  bsearchSeq_eq h.partPt

/-- the bracket `[low, low + size]` always contains the partition point -/
theorem lbLoop_eq {s : Nat} {l : Array (Iv α)} {n : Nat} (hn : PartPt (fun iv => decide (iv.start < s)) l n) :
    ∀ fuel size low, size ≤ fuel → low ≤ n → n ≤ low + size → low + size ≤ l.size →
      lbLoop s l fuel size low = n := by
  intro fuel
  induction fuel with
  | zero => exact fun size low hf hlo hhi _ => by cases Nat.le_zero.mp hf; exact Nat.le_antisymm hlo hhi
  | succ f ih =>
    intro size low hf hlo hhi hsz
    rw [lbLoop]
    by_cases hpos : size > 0
    · have h1 : size / 2 < size := Nat.div_lt_self hpos (by decide)
      have h2 := sub_half_le size
      generalize size / 2 = half at h1 h2 ⊢
      have hp : low + half < l.size := Nat.lt_of_lt_of_le (Nat.add_lt_add_left h1 low) hsz
      have hf' : half ≤ f := Nat.le_of_lt_succ (Nat.lt_of_lt_of_le h1 hf)
      have e : low + (size - half) + half = low + size := by
        rw [Nat.add_assoc, Nat.sub_add_cancel (Nat.le_of_lt h1)]
      have := hn.2 _ hp
      simp only [decide_eq_true_eq] at this
      simp only [if_pos hpos, Array.getElem?_eq_getElem hp, this]
      by_cases hm : low + half < n
      · rw [if_pos hm]
        exact ih _ _ hf' (Nat.le_trans (Nat.add_le_add_left h2 low) hm) (e ▸ hhi) (e ▸ hsz)
      · rw [if_neg hm]
        exact ih _ _ hf' hlo (Nat.le_of_not_lt hm) (Nat.le_of_lt hp)
    · rw [if_neg hpos]
      cases Nat.eq_zero_of_not_pos hpos
      exact Nat.le_antisymm hlo hhi

theorem skipEq_eq {l : Array Nat} {k m n : Nat} (hm : PartPt (fun x => decide (x < k)) l m)
    (hn : PartPt (fun x => decide (x ≤ k)) l n) :
    ∀ fuel f, l.size ≤ f + fuel → m ≤ f → f ≤ n → skipEq l k fuel f = n := by
  intro fuel
  induction fuel with
  | zero => exact fun f hf _ hfn => Nat.le_antisymm hfn (Nat.le_trans hn.1 hf)
  | succ g ih =>
    intro f hf hmf hfn
    simp only [skipEq]
    by_cases hin : f < l.size
    · have h1 := hm.2 f hin
      have h2 := hn.2 f hin
      simp only [decide_eq_true_eq] at h1 h2
      simp only [Array.getElem?_eq_getElem hin, beq_iff_eq]
      split
      · exact ih _ (by omega) (Nat.le_succ_of_le hmf) (h2.mp (Nat.le_of_eq ‹_›))
      · omega
    · rw [Array.getElem?_eq_none (Nat.le_of_not_lt hin)]
      exact Nat.le_antisymm hfn (Nat.le_trans hn.1 (Nat.le_of_not_lt hin))

theorem natcmp_lt_iff (a b : Nat) : (compare a b == Ordering.lt) = true ↔ a < b := by
  rw [beq_iff_eq, Nat.compare_eq_lt]

theorem prefixClosed_lt {l : List Nat} (hs : l.Pairwise (· ≤ ·)) (k : Nat) :
    PrefixClosed (fun x => decide (x < k)) l :=
  hs.imp fun hab hb => decide_eq_true (Nat.lt_of_le_of_lt hab (of_decide_eq_true hb))

theorem prefixClosed_le {l : List Nat} (hs : l.Pairwise (· ≤ ·)) (k : Nat) :
    PrefixClosed (fun x => decide (x ≤ k)) l :=
  hs.imp fun hab hb => decide_eq_true (Nat.le_trans hab (of_decide_eq_true hb))

theorem bsearchSeq_nat {l : Array Nat} (hs : l.toList.Pairwise (· ≤ ·)) (k : Nat) :
    bsearchSeq compare k l = l.toList.countP (· < k) :=
  have h := (prefixClosed_lt hs k).partPt
  bsearchSeq_eq ⟨h.1, fun i hi => (natcmp_lt_iff _ _).trans (decide_eq_true_iff.symm.trans (h.2 i hi))⟩

theorem insertAt_toList (a : Array β) (i : Nat) (x : β) :
    (insertAt a i x).toList = a.toList.take i ++ x :: a.toList.drop i := rfl

theorem insertAt_perm (a : Array β) (i : Nat) (x : β) : (insertAt a i x).toList.Perm (x :: a.toList) := by
  rw [insertAt_toList]
  exact List.perm_middle.trans (by rw [List.take_append_drop])

/-- `hcmp`: `cmp · · = Less` is the strict part of the total preorder `r` -/
theorem insertAt_bsearchSeq_sorted {r : κ → κ → Prop} (htot : ∀ a b, r a b ∨ r b a)
    (htr : ∀ a b c, r a b → r b c → r a c) {cmp : κ → κ → Ordering}
    (hcmp : ∀ a b, (cmp a b == .lt) = true ↔ ¬ r b a) {l : Array κ} (hl : l.toList.Pairwise r) (k : κ) :
    (insertAt l (bsearchSeq cmp k l) k).toList.Pairwise r := by
  have hpc : PrefixClosed (fun x => cmp x k == .lt) l.toList :=
    hl.imp fun hab hb => (hcmp _ _).mpr fun hka => (hcmp _ _).mp hb (htr _ _ _ hka hab)
  have hlo := fun y hy => (htot y k).resolve_right ((hcmp y k).mp (take_countP_all hpc y hy))
  have hhi := fun y hy => Classical.not_not.mp (mt (hcmp y k).mpr (Bool.eq_false_iff.mp (drop_countP_none hpc y hy)))
  rw [insertAt_toList, bsearchSeq_countP hpc, List.pairwise_append]
  refine ⟨hl.sublist (List.take_sublist _ _), List.pairwise_cons.mpr ⟨hhi, hl.sublist (List.drop_sublist _ _)⟩, ?_⟩
  intro a ha b hb
  rcases List.mem_cons.mp hb with rfl | hb
  · exact hlo a ha
  · exact htr _ _ _ (hlo a ha) (hhi b hb)

end BV
