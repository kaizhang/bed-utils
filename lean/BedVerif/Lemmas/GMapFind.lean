import BedVerif.Lemmas.GMap
/-! `find` on a loaded map (map level of C02). -/
namespace BV
variable {α : Type}

theorem len_eq_iter_length (m : GMap α) : GMap.len m = (GMap.iter m).length := by
  simp [GMap.len, GMap.iter, List.length_flatMap]

theorem ov_toRec (k : Bytes) (q : Rec) (iv : Iv α) :
    (toRec k iv).1.ov q = (k == q.chrom && iv.ov q.start q.stop) := Bool.and_assoc ..

theorem filter_ents (k : Bytes) (q : Rec) (t : Lapper α) :
    (ents k t).filter (fun x => x.1.ov q) =
      if k = q.chrom then (t.intervals.toList.filter (·.ov q.start q.stop)).map (toRec k) else [] := by
  rw [ents, List.filter_map]
  split
  next h =>
    refine congrArg _ (List.filter_congr fun iv _ => ?_)
    rw [Function.comp, ov_toRec, beq_iff_eq.mpr h, Bool.true_and]
  next h =>
    rw [List.map_eq_nil_iff, List.filter_eq_nil_iff]
    intro iv _
    rw [Function.comp, ov_toRec, beq_eq_false_iff_ne.mpr h, Bool.false_and]
    exact Bool.false_ne_true

theorem find_cons (k : Bytes) (t : Lapper α) (rest : GMap α) (q : Rec) :
    GMap.find ((k, t) :: rest) q =
      if k = q.chrom then (t.find q.start q.stop).map (toRec q.chrom) else GMap.find rest q := by
  by_cases h : k = q.chrom
  · rw [GMap.find, GMap.get?, if_pos h, if_pos h]; rfl
  · rw [GMap.find, GMap.get?, if_neg h, if_neg h]; rfl

theorem find_absent (m : GMap α) (q : Rec) (h : ∀ kv ∈ m, kv.1 ≠ q.chrom) : GMap.find m q = [] := by
  induction m with
  | nil => rfl
  | cons kv m ih =>
    obtain ⟨hk, hm⟩ := List.forall_mem_cons.mp h
    rw [find_cons, if_neg hk, ih hm]

/-- with distinct chromosomes and the Lapper invariant on every tree, `find` is exactly the stored
records overlapping the query on the same chromosome, in storage order -/
theorem gfind_eq_filter {m : GMap α} (hd : m.Pairwise (fun a b => a.1 ≠ b.1)) (hi : ∀ kv ∈ m, Inv kv.2)
    (q : Rec) : GMap.find m q = (GMap.iter m).filter (fun x => x.1.ov q) := by
  induction m with
  | nil => rfl
  | cons kv m ih =>
    obtain ⟨hk, hd⟩ := List.pairwise_cons.mp hd
    obtain ⟨ht, hi⟩ := List.forall_mem_cons.mp hi
    rw [find_cons, iter_eq, List.flatMap_cons, List.filter_append, filter_ents, ← iter_eq, ← ih hd hi]
    split
    next hc =>
      -- no later entry has this chromosome
      rw [find_absent m q fun b hb e => hk b hb (hc.trans e.symm), List.append_nil, hc, ht.find_eq_filter]
    next => rfl

theorem Loaded.find_perm {m : GMap α} {xs : List (Rec × α)} (h : Loaded m xs) (q : Rec) :
    (GMap.find m q).Perm (specFind xs q) := by
  rw [gfind_eq_filter h.distinct h.all]
  exact h.perm.filter _

end BV
