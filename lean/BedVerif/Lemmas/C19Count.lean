import BedVerif.Lemmas.C18Merge
/-! Counting for C19: `cnt f n` = number of `p < n` with `f p`. Every count of the specification
(`coveredCount`, `unionCount`, `interCount`) is such a count of a predicate with finite support, and does not
depend on the bound once the bound is beyond the support (`cnt_ext`). -/
namespace BV
variable {α β : Type}

def cnt (f : Nat → Bool) (n : Nat) : Nat := ((List.range n).filter f).length

theorem cnt_zero (f : Nat → Bool) : cnt f 0 = 0 := rfl

theorem cnt_succ (f : Nat → Bool) (n : Nat) : cnt f (n+1) = cnt f n + (if f n then 1 else 0) := by
  unfold cnt
  rw [List.range_succ, List.filter_append, List.length_append]
  cases h : f n <;> simp [h]

theorem cnt_eq_zero {f : Nat → Bool} {n : Nat} (h : ∀ p, p < n → f p = false) : cnt f n = 0 := by
  unfold cnt
  rw [List.length_eq_zero_iff, List.filter_eq_nil_iff]
  exact fun p hp => by rw [h p (List.mem_range.mp hp)]; exact Bool.false_ne_true

/-- inclusion–exclusion -/
theorem cnt_or_and (f g : Nat → Bool) (n : Nat) :
    cnt (fun p => f p || g p) n + cnt (fun p => f p && g p) n = cnt f n + cnt g n := by
  induction n with
  | zero => rfl
  | succ n ih =>
    simp only [cnt_succ]
    cases f n <;> cases g n <;> simp <;> omega

theorem cnt_mono {f g : Nat → Bool} {n : Nat} (h : ∀ p, p < n → f p = true → g p = true) : cnt f n ≤ cnt g n := by
  induction n with
  | zero => exact Nat.le_refl _
  | succ n ih =>
    simp only [cnt_succ]
    have := ih (fun p hp => h p (by omega))
    have hn := h n (by omega)
    cases hf : f n
    · simp; omega
    · simp [hn hf]; omega

/-- disjoint union -/
theorem cnt_or_disj (f g : Nat → Bool) (n : Nat) (h : ∀ p, p < n → f p = true → g p = false) :
    cnt (fun p => f p || g p) n = cnt f n + cnt g n := by
  have h1 := cnt_or_and f g n
  have h2 : cnt (fun p => f p && g p) n = 0 :=
    cnt_eq_zero fun p hp => by cases hf : f p <;> simp [h p hp, hf]
  omega

/-- the count does not depend on the bound, once the bound is beyond the support -/
theorem cnt_ext {f g : Nat → Bool} {n m : Nat} (hf : ∀ p, f p = true → p < n) (hg : ∀ p, g p = true → p < m)
    (h : ∀ p, f p = g p) : cnt f n = cnt g m := by
  obtain rfl : f = g := funext h
  suffices ∀ {n} k, (∀ p, f p = true → p < n) → cnt f (n + k) = cnt f n by
    rw [← this (m - n) hf, ← this (n - m) hg]
    congr 1
    omega
  intro n k hn
  induction k with
  | zero => rfl
  | succ k ih =>
    rw [← Nat.add_assoc, cnt_succ, ih]
    cases hk : f (n + k)
    · rfl
    · have := hn _ hk; omega

theorem cnt_interval_le (a b n : Nat) (h : n ≤ b) : cnt (fun p => decide (a ≤ p) && decide (p < b)) n = n - a := by
  induction n with
  | zero => rw [cnt_zero, Nat.zero_sub]
  | succ n ih =>
    rw [cnt_succ, ih (Nat.le_of_succ_le h)]
    have : n < b := h
    by_cases ha : a ≤ n
    · rw [if_pos (by simp [ha, this]), Nat.succ_sub ha]
    · rw [if_neg (by simp [ha]), Nat.sub_eq_zero_of_le (Nat.le_of_lt (Nat.lt_of_not_le ha)),
        Nat.sub_eq_zero_of_le (Nat.lt_of_not_le ha)]

theorem cnt_interval (a b n : Nat) : cnt (fun p => decide (a ≤ p) && decide (p < b)) n = min n b - a := by
  rcases Nat.le_total n b with h | h
  · rw [Nat.min_eq_left h]; exact cnt_interval_le a b n h
  · rw [Nat.min_eq_right h, ← cnt_interval_le a b b (Nat.le_refl _)]
    exact cnt_ext (fun p hp => by simp only [Bool.and_eq_true, decide_eq_true_eq] at hp; omega)
      (fun p hp => by simp only [Bool.and_eq_true, decide_eq_true_eq] at hp; omega) (fun _ => rfl)

theorem cnt_covers (iv : Iv α) {n : Nat} (h : iv.stop ≤ n) : cnt iv.covers n = iv.len :=
  (cnt_ext (fun p hp => Nat.lt_of_lt_of_le ((Iv.covers_iff iv p).mp hp).2 h)
    (fun p hp => ((Iv.covers_iff iv p).mp hp).2) (fun _ => rfl)).trans
    (cnt_interval_le iv.start iv.stop iv.stop (Nat.le_refl _))

theorem coveredB_nil (p : Nat) : coveredB ([] : List (Iv α)) p = false := rfl

theorem coveredB_cons (iv : Iv α) (l : List (Iv α)) (p : Nat) :
    coveredB (iv :: l) p = (iv.covers p || coveredB l p) := rfl

theorem coveredB_append (l₁ l₂ : List (Iv α)) (p : Nat) :
    coveredB (l₁ ++ l₂) p = (coveredB l₁ p || coveredB l₂ p) := List.any_append

theorem coveredB_congr {l : List (Iv α)} {l' : List (Iv β)} (h : ∀ p, covered l p ↔ covered l' p) (p : Nat) :
    coveredB l p = coveredB l' p :=
  Bool.eq_iff_iff.mpr (by rw [coveredB_iff_covered, coveredB_iff_covered]; exact h p)

/-- a covered position lies below every bound on the stops -/
theorem coveredB_lt {l : List (Iv α)} {n : Nat} (hn : ∀ iv ∈ l, iv.stop ≤ n) (p : Nat) (h : coveredB l p = true) : p < n := by
  obtain ⟨iv, hiv, hc⟩ := (coveredB_iff_covered l p).mp h
  exact Nat.lt_of_lt_of_le ((Iv.covers_iff iv p).mp hc).2 (hn iv hiv)

/-- up to the stop of an interval that ends before all of `t` starts, `t` covers nothing -/
theorem coveredB_of_le_stop {a : Iv α} {t : List (Iv α)} (h : ∀ x ∈ t, a.stop < x.start) {p : Nat} (hp : p ≤ a.stop) :
    coveredB t p = false := by
  rw [Bool.eq_false_iff]
  intro hc
  obtain ⟨x, hx, hxc⟩ := (coveredB_iff_covered t p).mp hc
  have := h x hx
  rw [Iv.covers_iff] at hxc
  omega

/-- a separated list covers as many positions as its lengths add up to -/
theorem cnt_separated (L : List (Iv α)) (hL : L.Pairwise (fun a b => a.stop < b.start)) (N : Nat)
    (hN : ∀ iv ∈ L, iv.stop ≤ N) : cnt (coveredB L) N = (L.map Iv.len).sum := by
  induction L with
  | nil => exact cnt_eq_zero fun p _ => coveredB_nil p
  | cons iv t ih =>
    have hp := List.pairwise_cons.mp hL
    rw [List.map_cons, List.sum_cons, ← ih hp.2 (fun x hx => hN x (List.mem_cons_of_mem _ hx)),
      ← cnt_covers iv (hN iv List.mem_cons_self)]
    exact cnt_or_disj iv.covers (coveredB t) N fun p _ hp' =>
      coveredB_of_le_stop hp.1 (Nat.le_of_lt ((Iv.covers_iff iv p).mp hp').2)

theorem coveredCount_separated (L : List (Iv α)) (hL : L.Pairwise (fun a b => a.stop < b.start)) :
    coveredCount L = (L.map Iv.len).sum :=
  cnt_separated L hL _ (maxStop_ge L)

/-- a bound above all stops suffices (it need not dominate `maxStop` syntactically) -/
theorem coveredCount_eq_cnt' (l : List (Iv α)) (n : Nat) (hn : ∀ iv ∈ l, iv.stop ≤ n) : coveredCount l = cnt (coveredB l) n :=
  cnt_ext (coveredB_lt (maxStop_ge l)) (coveredB_lt hn) (fun _ => rfl)

/-- `coveredCount` depends only on the covered set -/
theorem coveredCount_congr {l : List (Iv α)} {l' : List (Iv β)} (h : ∀ p, covered l p ↔ covered l' p) :
    coveredCount l = coveredCount l' :=
  cnt_ext (coveredB_lt (maxStop_ge l)) (coveredB_lt (maxStop_ge l')) (coveredB_congr h)

/-! ### two lists: `unionCount` and `interCount` count below `max (maxStop a) (maxStop b)` -/

theorem coveredB_or_lt (a : List (Iv α)) (b : List (Iv β)) (p : Nat) (h : (coveredB a p || coveredB b p) = true) :
    p < max (maxStop a) (maxStop b) := by
  rcases Bool.or_eq_true _ _ ▸ h with h | h
  · exact Nat.lt_of_lt_of_le (coveredB_lt (maxStop_ge a) p h) (Nat.le_max_left ..)
  · exact Nat.lt_of_lt_of_le (coveredB_lt (maxStop_ge b) p h) (Nat.le_max_right ..)

theorem coveredB_and_lt (a : List (Iv α)) (b : List (Iv β)) (p : Nat) (h : (coveredB a p && coveredB b p) = true) :
    p < max (maxStop a) (maxStop b) :=
  coveredB_or_lt a b p (by rw [Bool.and_eq_true] at h; rw [h.1]; rfl)

theorem interCount_congr {α' β' : Type} {a : List (Iv α)} {b : List (Iv β)} {a' : List (Iv α')} {b' : List (Iv β')}
    (ha : ∀ p, covered a p ↔ covered a' p) (hb : ∀ p, covered b p ↔ covered b' p) :
    interCount a b = interCount a' b' :=
  cnt_ext (coveredB_and_lt a b) (coveredB_and_lt a' b') fun p => by rw [coveredB_congr ha, coveredB_congr hb]

theorem unionCount_comm (a : List (Iv α)) (b : List (Iv β)) : unionCount a b = unionCount b a :=
  cnt_ext (coveredB_or_lt a b) (coveredB_or_lt b a) fun _ => Bool.or_comm ..

theorem interCount_comm (a : List (Iv α)) (b : List (Iv β)) : interCount a b = interCount b a :=
  cnt_ext (coveredB_and_lt a b) (coveredB_and_lt b a) fun _ => Bool.and_comm ..

theorem coveredCount_eq_cnt_left (a : List (Iv α)) (b : List (Iv β)) :
    coveredCount a = cnt (coveredB a) (max (maxStop a) (maxStop b)) :=
  coveredCount_eq_cnt' a _ fun iv hiv => Nat.le_trans (maxStop_ge a iv hiv) (Nat.le_max_left ..)

theorem coveredCount_eq_cnt_right (a : List (Iv α)) (b : List (Iv β)) :
    coveredCount b = cnt (coveredB b) (max (maxStop a) (maxStop b)) :=
  coveredCount_eq_cnt' b _ fun iv hiv => Nat.le_trans (maxStop_ge b iv hiv) (Nat.le_max_right ..)

/-- `|A ∪ B| + |A ∩ B| = |A| + |B|` -/
theorem unionCount_add_interCount (a : List (Iv α)) (b : List (Iv β)) :
    unionCount a b + interCount a b = coveredCount a + coveredCount b := by
  rw [coveredCount_eq_cnt_left a b, coveredCount_eq_cnt_right a b]
  exact cnt_or_and (coveredB a) (coveredB b) _

/-- the intersection is contained in the first set: `cov(a) - inter` does not truncate -/
theorem interCount_le_coveredCount (A : List (Iv α)) (B : List (Iv β)) : interCount A B ≤ coveredCount A := by
  rw [coveredCount_eq_cnt_left A B]
  exact cnt_mono fun p _ h => (Bool.and_eq_true _ _ ▸ h).1
theorem interCount_le_coveredCount_right (A : List (Iv α)) (B : List (Iv β)) : interCount A B ≤ coveredCount B := by
  rw [interCount_comm]; exact interCount_le_coveredCount B A

/-- `|A ∪ B| = |A| − |A ∩ B| + |B|`, the order of operations of the repaired code; the truncated
subtraction is exact -/
theorem unionCount_eq_sub_add (A : List (Iv α)) (B : List (Iv β)) :
    coveredCount A - interCount A B + coveredCount B = unionCount A B := by
  have h1 := interCount_le_coveredCount A B
  have h2 := unionCount_add_interCount A B
  omega

/-- the union lies below the greatest stop -/
theorem unionCount_le_maxStop (A : List (Iv α)) (B : List (Iv β)) : unionCount A B ≤ max (maxStop A) (maxStop B) :=
  Nat.le_trans (List.length_filter_le _ _) (by rw [List.length_range]; exact Nat.le_refl _)

end BV
