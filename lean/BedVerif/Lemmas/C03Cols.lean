import BedVerif.Lemmas.C03Num
import BedVerif.Lemmas.C12Lemmas
/-! C03 helpers: each column parser inverts its column; every column is clean -/
namespace BV
namespace C03
variable {F : Type}

theorem bindP_ok {β γ : Type} (b : β) (r : List Bytes) (k : β → List Bytes → Outcome PErr γ) :
    bindP (.ok (b, r)) k = k b r := rfl

theorem pChrom_cons (f : Bytes) (r : List Bytes) : pChrom (f :: r) = .ok (f, r) := rfl

theorem pStart_show (n : Nat) (r : List Bytes) (h : n ≤ U64MAX) : pStart (showNat n :: r) = .ok (n, r) := by
  simp only [pStart, parseUnsigned_showNat _ _ h]
theorem pEnd_show (n : Nat) (r : List Bytes) (h : n ≤ U64MAX) : pEnd (showNat n :: r) = .ok (n, r) := by
  simp only [pEnd, parseUnsigned_showNat _ _ h]
theorem pPeak_show (n : Nat) (r : List Bytes) (h : n ≤ U64MAX) : pPeak (showNat n :: r) = .ok (n, r) := by
  simp only [pPeak, parseUnsigned_showNat _ _ h]
theorem pI64_show (i : Int) (r : List Bytes) (h : -(2^63 : Int) ≤ i ∧ i < 2^63) : pI64 (showInt i :: r) = .ok (i, r) := by
  simp only [pI64, parseI64_showInt _ h]

theorem pName_show (name : Option Bytes) (r : List Bytes) (h : ∀ nm, name = some nm → Clean nm ∧ nm ≠ DOT) :
    pName (optCol name :: r) = .ok (name, r) := by
  cases name with
  | none => rfl
  | some nm => exact congrArg (fun o => Outcome.ok (o, r)) (if_neg (h nm rfl).2)

/-- an optional column parses back, if its values do and none of them is written `.` -/
theorem pCol_decOpt_show {β : Type} (miss bad : PErr) (dec : Bytes → Option β) (shw : β → Bytes) (o : Option β)
    (r : List Bytes) (h : ∀ v, o = some v → dec (shw v) = some v ∧ shw v ≠ DOT) :
    pCol miss bad (decOpt dec) (optCol (o.map shw) :: r) = .ok (o, r) := by
  cases o with
  | none => rfl
  | some v =>
    obtain ⟨hd, hne⟩ := h v rfl
    simp only [pCol, Option.map_some, optCol, Option.getD_some, decOpt_of_ne dec hne, hd]

theorem pScore_show (score : Option Nat) (r : List Bytes) (h : ∀ s, score = some s → s ≤ 1000) :
    pScore (optCol (score.map showNat) :: r) = .ok (score, r) := by
  rw [pScore_eq]
  refine pCol_decOpt_show _ _ _ _ _ _ fun s hs => ⟨?_, (showNat_decimal s).ne_DOT⟩
  rw [parseScore_showNat s (Nat.le_trans (h s hs) (by decide)), Nat.min_eq_left (h s hs)]

theorem pStrand_show (strand : Option Strand) (r : List Bytes) :
    pStrand (optCol (strand.map showStrand) :: r) = .ok (strand, r) := by
  rw [pStrand_eq]
  exact pCol_decOpt_show _ _ _ _ _ _ fun s _ => by cases s <;> exact ⟨rfl, by decide⟩

theorem pFloat_show (fc : FloatCodec F) (hfc : fc.Lawful) (s : F) (r : List Bytes) (h : fc.isNaN s = false) :
    pFloat fc (fc.render s :: r) = .ok (s, r) := by
  simp only [pFloat, hfc.roundtrip s h]

theorem pPValue_show (fc : FloatCodec F) (hfc : fc.Lawful) (o : Option F) (r : List Bytes) (h : PvalOk fc o) :
    pPValue fc (fc.render (o.getD fc.negOne) :: r) = .ok (o, r) := by
  cases o with
  | none =>
    simp only [pPValue, Option.getD_none, hfc.roundtrip _ hfc.negOne_lt.2, hfc.negOne_lt.1]
    rfl
  | some v =>
    obtain ⟨h1, h2⟩ := h v rfl
    simp only [pPValue, Option.getD_some, hfc.roundtrip _ h2, h1]
    rfl

/-- a column that the type carries only if `c`: present, it parses back; absent, the field is `none` -/
theorem opt_col_show {β : Type} (c : Prop) [Decidable c] (p : P (Option β)) (o : Option β) (col : Bytes)
    (r fs : List Bytes) (hfs : fs = (if c then [col] else []) ++ r) (hp : p (col :: r) = .ok (o, r))
    (hn : ¬ c → o = none) : (if c then p fs else .ok (none, fs)) = .ok (o, r) := by
  subst hfs
  by_cases h : c
  · rw [if_pos h, if_pos h]; exact hp
  · rw [if_neg h, if_neg h, hn h]; rfl

/-! cleanliness of columns -/
theorem Clean_of_digits (s : Bytes) (h : ∀ c ∈ s, isDigit c = true) : Clean s :=
  ⟨fun hm => isDigit_ne (h _ hm) rfl rfl, fun hm => isDigit_ne (h _ hm) rfl rfl, fun hm => isDigit_ne (h _ hm) rfl rfl⟩

theorem Clean_showNat (n : Nat) : Clean (showNat n) := Clean_of_digits _ (showNat_decimal n).mem_digit
theorem Clean_DOT : Clean DOT := by simp [Clean, DOT, TAB, LF, CR]
theorem Clean_neg (n : Nat) : Clean (DASH :: showNat n) := by
  obtain ⟨a, b, c⟩ := Clean_showNat n
  refine ⟨?_, ?_, ?_⟩ <;> simp [DASH, TAB, LF, CR] <;> assumption
theorem Clean_showInt (i : Int) : Clean (showInt i) := by
  unfold showInt
  split
  · exact Clean_neg _
  · exact Clean_showNat _
theorem Clean_optCol (o : Option Bytes) (h : ∀ s, o = some s → Clean s) : Clean (optCol o) := by
  cases o with
  | none => exact Clean_DOT
  | some s => exact h s rfl
theorem Clean_score (score : Option Nat) : Clean (optCol (score.map showNat)) := by
  cases score with
  | none => exact Clean_DOT
  | some s => exact Clean_showNat s
theorem Clean_strand (strand : Option Strand) : Clean (optCol (strand.map showStrand)) := by
  cases strand with
  | none => exact Clean_DOT
  | some s => cases s <;> simp [Clean, optCol, showStrand, TAB, LF, CR]

end C03
end BV
