import BedVerif.Model.Store
/-!
The little-endian length header: `unle64` undoes `le64`, by induction on the number of bytes (nothing in
the argument depends on there being eight of them).
-/
namespace BV

theorem unle64_cons (a : UInt8) (b : Bytes) : unle64 (a :: b) = a.toNat + 256 * unle64 b := by
  -- every index of the tail is one higher than in `unle64 b`: that is the factor 256
  have shift : ∀ (l : List (UInt8 × Nat)) (y : Nat),
      (l.map (Prod.map id Nat.succ)).foldl (fun acc p => acc + p.1.toNat * 256 ^ p.2) (a.toNat + 256 * y)
        = a.toNat + 256 * l.foldl (fun acc p => acc + p.1.toNat * 256 ^ p.2) y := by
    intro l
    induction l with
    | nil => intro y; rfl
    | cons p l ih =>
      intro y
      rw [List.map_cons, List.foldl_cons, List.foldl_cons, ← ih]
      show List.foldl _ (a.toNat + 256 * y + p.1.toNat * 256 ^ (p.2 + 1)) _ = _
      rw [Nat.pow_succ, ← Nat.mul_assoc, Nat.mul_comm _ 256, Nat.mul_add, Nat.add_assoc]
  simp only [unle64, List.length_cons, List.range_succ_eq_map, List.zip_cons_cons, List.foldl_cons,
    List.zip_map_right, Nat.pow_zero, Nat.mul_one, Nat.zero_add]
  exact shift _ 0

theorem leDigits_succ (k n : Nat) :
    (List.range (k + 1)).map (fun i => (n / 256 ^ i % 256).toUInt8) =
      (n % 256).toUInt8 :: (List.range k).map (fun i => (n / 256 / 256 ^ i % 256).toUInt8) := by
  simp only [List.range_succ_eq_map, List.map_cons, List.map_map, Nat.pow_zero, Nat.div_one]
  congr 1
  apply List.map_congr_left
  intro i _
  simp only [Function.comp, Nat.pow_succ, Nat.div_div_eq_div_mul, Nat.mul_comm]

theorem unle64_leDigits : ∀ (k n : Nat), n < 256 ^ k →
    unle64 ((List.range k).map (fun i => (n / 256 ^ i % 256).toUInt8)) = n := by
  intro k
  induction k with
  | zero =>
    intro n h
    rw [Nat.pow_zero, Nat.lt_one_iff] at h
    subst h
    rfl
  | succ k ih =>
    intro n h
    rw [leDigits_succ, unle64_cons, ih (n / 256) (by rw [Nat.pow_succ] at h; omega)]
    simp only [Nat.toUInt8_eq, UInt8.toNat_ofNat']
    omega

theorem C09_le64_length (n : Nat) : (le64 n).length = 8 := by
  simp only [le64, List.length_map, List.length_range]

theorem C09_unle64_le64 (n : Nat) (h : n < 2^64) : unle64 (le64 n) = n :=
  unle64_leDigits 8 n h

theorem frames_cons (p : Bytes) (ps : List Bytes) : frames (p :: ps) = le64 p.length ++ (p ++ frames ps) := by
  simp only [frames, frame, List.flatMap_cons, List.append_assoc]

theorem frames_nil : frames [] = [] := rfl

end BV
