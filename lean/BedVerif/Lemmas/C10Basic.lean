import BedVerif.Model.Sort
/-!
Vocabulary of the merger proof: the comparator laws, the multiset `A` of items inside a merger, the coverage
invariant `Cov`/`W` and the order invariant `Ord`; then the list lemmas for `okItems`, `hasErr`,
`beforeFirstErr` and for `flatten` of `set`.
-/
namespace BV
variable {ε α : Type}

/-- the comparator is a total preorder -/
structure TotalPreorder (cmp : α → α → Ordering) : Prop where
  swap : ∀ a b, cmp a b = (cmp b a).swap
  trans : ∀ a b c, cmp a b ≠ .gt → cmp b c ≠ .gt → cmp a c ≠ .gt
def le (cmp : α → α → Ordering) (a b : α) : Prop := cmp a b ≠ .gt
def AllOk (l : List (Item ε α)) : Prop := ∀ x ∈ l, ∃ a, x = .ok a

theorem TotalPreorder.refl {cmp : α → α → Ordering} (h : TotalPreorder cmp) (a : α) : le cmp a a := by
  intro hgt
  have := h.swap a a
  rw [hgt] at this
  cases this

end BV

namespace BV.C10
variable {ε α : Type}

/-- all items still inside the merger: heap values (as `ok` items) and the unread chunk items -/
def A (m : Merger ε α) : List (Item ε α) := m.heap.map (fun p => Item.ok p.1) ++ m.chunks.flatten

def Cov (m : Merger ε α) : Prop := ∀ (i : Nat) c, m.chunks[i]? = some c → c ≠ [] → ∃ v, (v, i) ∈ m.heap
/-- kept apart from `Ord`: completeness and error delivery need no hypothesis on the comparator or the chunks -/
def W (m : Merger ε α) : Prop := m.initiated = true → Cov m
def Ord (cmp : α → α → Ordering) (m : Merger ε α) : Prop :=
  ∀ (i : Nat) c, m.chunks[i]? = some c →
    (okItems c).Pairwise (le cmp) ∧ ∀ v, (v, i) ∈ m.heap → ∀ b ∈ okItems c, le cmp v b

@[simp] theorem okItems_nil : okItems ([] : List (Item ε α)) = [] := rfl
@[simp] theorem okItems_cons_ok (a : α) (l : List (Item ε α)) : okItems (Item.ok a :: l) = a :: okItems l := by
  simp [okItems]
@[simp] theorem okItems_cons_err (e : ε) (l : List (Item ε α)) : okItems (Item.err e :: l) = okItems l := by
  simp [okItems]
theorem okItems_append (l r : List (Item ε α)) : okItems (l ++ r) = okItems l ++ okItems r := by
  simp [okItems, List.filterMap_append]
theorem okItems_perm {l r : List (Item ε α)} (h : l.Perm r) : (okItems l).Perm (okItems r) :=
  List.Perm.filterMap _ h
theorem mem_okItems {a : α} {l : List (Item ε α)} : a ∈ okItems l ↔ Item.ok a ∈ l := by
  induction l with
  | nil => simp
  | cons x xs ih => cases x <;> simp [ih]
theorem okItems_map_ok (h : List (α × Nat)) :
    okItems (h.map (fun p => (Item.ok p.1 : Item ε α))) = h.map (·.1) := by
  induction h with
  | nil => rfl
  | cons x xs ih => simp [ih]
theorem okItems_reverse (l : List (Item ε α)) : okItems l.reverse = (okItems l).reverse := by
  simp [okItems, List.filterMap_reverse]

@[simp] theorem hasErr_nil : hasErr ([] : List (Item ε α)) = false := rfl
@[simp] theorem hasErr_cons_ok (a : α) (l : List (Item ε α)) : hasErr (Item.ok a :: l) = hasErr l := by
  simp [hasErr]
@[simp] theorem hasErr_cons_err (e : ε) (l : List (Item ε α)) : hasErr (Item.err e :: l) = true := by
  simp [hasErr]
theorem hasErr_iff {l : List (Item ε α)} : hasErr l = true ↔ ∃ e, Item.err e ∈ l := by
  induction l with
  | nil => simp
  | cons x xs ih => cases x <;> simp [ih]
theorem hasErr_reverse (l : List (Item ε α)) : hasErr l.reverse = hasErr l := by
  simp [hasErr]
theorem hasErr_false_allOk {l : List (Item ε α)} (h : hasErr l = false) : ∀ x ∈ l, ∃ a, x = Item.ok a := by
  intro x hx
  cases x with
  | ok a => exact ⟨a, rfl⟩
  | err e => have := hasErr_iff.mpr ⟨e, hx⟩; simp [h] at this

theorem beforeFirstErr_append (l r : List (Item ε α)) :
    beforeFirstErr (l ++ r) = if hasErr l then beforeFirstErr l else okItems l ++ beforeFirstErr r := by
  induction l with
  | nil => simp
  | cons x xs ih =>
    cases x with
    | ok a => simp only [List.cons_append, beforeFirstErr, ih, hasErr_cons_ok, okItems_cons_ok]; split <;> rfl
    | err e => simp [beforeFirstErr]
theorem beforeFirstErr_noErr {l : List (Item ε α)} (h : hasErr l = false) : beforeFirstErr l = okItems l := by
  have := beforeFirstErr_append l []
  simpa [h, beforeFirstErr] using this
theorem mem_beforeFirstErr {b : α} {l : List (Item ε α)} (h : b ∈ beforeFirstErr l) : Item.ok b ∈ l := by
  induction l with
  | nil => cases h
  | cons x xs ih =>
    cases x with
    | ok a => exact (List.mem_cons.mp h).elim (· ▸ List.mem_cons_self) (fun h => List.mem_cons_of_mem _ (ih h))
    | err e => cases h

theorem flatten_set_perm {β : Type} (cs : List (List β)) (i : Nat) (x : β) (xs : List β)
    (h : cs[i]? = some (x :: xs)) : cs.flatten.Perm (x :: (cs.set i xs).flatten) := by
  induction cs generalizing i with
  | nil => cases h
  | cons c cs ih =>
    cases i with
    | zero =>
      cases (Option.some.inj h : c = x :: xs)
      exact .refl _
    | succ i => exact ((ih i h).append_left c).trans List.perm_middle

end BV.C10
