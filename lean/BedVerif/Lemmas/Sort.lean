import BedVerif.Basic
/-! The structural insertion sort is a sorting function: permutation + sorted (for a total,
transitive `le`), and it is stable enough for our purposes (we never need stability in proofs). -/
namespace BV
variable {β : Type}

structure TotalLe (le : β → β → Bool) : Prop where
  total : ∀ a b, le a b = true ∨ le b a = true
  trans : ∀ a b c, le a b = true → le b c = true → le a c = true

theorem insertBy_perm (le : β → β → Bool) (x : β) (l : List β) : (insertBy le x l).Perm (x :: l) := by
  induction l with
  | nil => simp [insertBy]
  | cons y ys ih =>
    simp only [insertBy]
    split
    · exact List.Perm.refl _
    · exact (List.Perm.cons y ih).trans (List.Perm.swap x y ys)

theorem isort_perm (le : β → β → Bool) (l : List β) : (isort le l).Perm l := by
  induction l with
  | nil => simp [isort]
  | cons x xs ih =>
    have : isort le (x :: xs) = insertBy le x (isort le xs) := rfl
    rw [this]
    exact (insertBy_perm le x _).trans (List.Perm.cons x ih)

theorem insertBy_sorted {le : β → β → Bool} (h : TotalLe le) (x : β) (l : List β)
    (hl : l.Pairwise (fun a b => le a b = true)) : (insertBy le x l).Pairwise (fun a b => le a b = true) := by
  induction l with
  | nil => simp [insertBy]
  | cons y ys ih =>
    have hp := List.pairwise_cons.mp hl
    simp only [insertBy]
    split
    · rename_i hxy
      apply List.pairwise_cons.mpr
      refine ⟨?_, hl⟩
      intro a ha
      rcases List.mem_cons.mp ha with rfl | ha
      · exact hxy
      · exact h.trans _ _ _ hxy (hp.1 a ha)
    · rename_i hxy
      have hyx : le y x = true := by
        rcases h.total x y with h1 | h1
        · exact absurd h1 hxy
        · exact h1
      apply List.pairwise_cons.mpr
      refine ⟨?_, ih hp.2⟩
      intro a ha
      have := (insertBy_perm le x ys).mem_iff.mp ha
      rcases List.mem_cons.mp this with rfl | ha'
      · exact hyx
      · exact hp.1 a ha'

theorem isort_sorted {le : β → β → Bool} (h : TotalLe le) (l : List β) :
    (isort le l).Pairwise (fun a b => le a b = true) := by
  induction l with
  | nil => simp [isort]
  | cons x xs ih =>
    have : isort le (x :: xs) = insertBy le x (isort le xs) := rfl
    rw [this]
    exact insertBy_sorted h x _ ih

theorem TotalLe.of_transCmp (cmp : β → β → Ordering) [Std.TransCmp cmp] : TotalLe (fun a b => cmp a b != .gt) where
  total a b := (Decidable.em (cmp a b = .gt)).elim
    (fun h => .inr (bne_iff_ne.mpr fun h' => nomatch (Std.OrientedCmp.gt_iff_lt.mp h).symm.trans h'))
    (fun h => .inl (bne_iff_ne.mpr h))
  trans _ _ _ h1 h2 := bne_iff_ne.mpr (Ordering.isLE_iff_ne_gt.mp (Std.TransCmp.isLE_trans
    (Ordering.isLE_iff_ne_gt.mpr (bne_iff_ne.mp h1)) (Ordering.isLE_iff_ne_gt.mpr (bne_iff_ne.mp h2))))

theorem natLe_total : TotalLe (fun a b : Nat => decide (a ≤ b)) :=
  ⟨fun a b => (Nat.le_total a b).imp decide_eq_true decide_eq_true,
   fun _ _ _ h1 h2 => decide_eq_true (Nat.le_trans (of_decide_eq_true h1) (of_decide_eq_true h2))⟩

theorem sortNat_perm (l : List Nat) : (sortNat l).Perm l := isort_perm _ l
theorem sortNat_sorted (l : List Nat) : (sortNat l).Pairwise (· ≤ ·) := by
  have := isort_sorted natLe_total l
  unfold sortNat
  exact this.imp (fun h => by simpa using h)

theorem foldl_running_max {step : Nat → β → Nat} {f : β → Nat}
    (hstep : ∀ m b, m ≤ step m b ∧ f b ≤ step m b) (l : List β) (m : Nat) :
    m ≤ l.foldl step m ∧ ∀ b ∈ l, f b ≤ l.foldl step m := by
  induction l generalizing m with
  | nil => exact ⟨Nat.le_refl _, fun _ h => nomatch h⟩
  | cons a t ih =>
    have ⟨h1, h2⟩ := ih (step m a)
    refine ⟨Nat.le_trans (hstep m a).1 h1, fun b hb => ?_⟩
    rcases List.mem_cons.mp hb with rfl | hb
    · exact Nat.le_trans (hstep m b).2 h1
    · exact h2 b hb

/-! ### Prefix-closed predicates: `countP` is the partition point -/

def PrefixClosed (P : β → Bool) (l : List β) : Prop := l.Pairwise (fun a b => P b = true → P a = true)

theorem idx_lt_countP {P : β → Bool} {l : List β} (h : PrefixClosed P l) (i : Nat) (hi : i < l.length) :
    P l[i] = true ↔ i < l.countP P := by
  induction l generalizing i with
  | nil => simp at hi
  | cons a t ih =>
    have hp := List.pairwise_cons.mp h
    by_cases ha : P a = true
    · cases i with
      | zero => simp [ha]
      | succ j => simp [ha, ih hp.2 j (Nat.lt_of_succ_lt_succ hi)]
    · have h0 : t.countP P = 0 := List.countP_eq_zero.mpr fun x hx hpx => ha (hp.1 x hx hpx)
      cases i with
      | zero => simp [ha, h0]
      | succ j => simp [ha, h0, mt (hp.1 _ (List.getElem_mem (Nat.lt_of_succ_lt_succ hi))) ha]

theorem take_countP_all {P : β → Bool} {l : List β} (h : PrefixClosed P l) :
    ∀ y ∈ l.take (l.countP P), P y = true := by
  intro y hy
  obtain ⟨i, hi, rfl⟩ := List.mem_take_iff_getElem.mp hy
  exact (idx_lt_countP h i (Nat.lt_of_lt_of_le hi (Nat.min_le_right _ _))).mpr
    (Nat.lt_of_lt_of_le hi (Nat.min_le_left _ _))

theorem drop_countP_none {P : β → Bool} {l : List β} (h : PrefixClosed P l) :
    ∀ y ∈ l.drop (l.countP P), P y = false := by
  intro y hy
  obtain ⟨i, hi, rfl⟩ := List.mem_drop_iff_getElem.mp hy
  exact Bool.eq_false_iff.mpr (mt (idx_lt_countP h _ _).mp (Nat.not_lt.mpr (Nat.le_add_right _ _)))

end BV
