import BedVerif.Lemmas.LapperInv
/-! `count`: both binary searches and the skip loop are partition points of the sorted
projections; those are `countP`s over the intervals, and the two excluded classes are disjoint. -/
namespace BV
variable {α : Type}

/-- with `start ≤ stop` and `qs < qe`, an interval that starts before `qe` either overlaps the
query or stops at or before `qs` -/
theorem countP_ov (l : List (Iv α)) (qs qe : Nat) (hq : qs < qe) (hw : ∀ iv ∈ l, iv.start ≤ iv.stop) :
    l.countP (·.ov qs qe) + l.countP (fun iv => iv.stop ≤ qs) = l.countP (fun iv => iv.start < qe) := by
  rw [List.countP_eq_countP_filter_add l (fun iv => iv.start < qe) (fun iv => iv.stop > qs),
    List.countP_filter, List.countP_filter]
  congr 1
  refine List.countP_congr fun iv hiv => ?_
  have := hw iv hiv
  simp only [Bool.and_eq_true, Bool.not_eq_true', decide_eq_true_eq, decide_eq_false_iff_not]
  omega

theorem count_first (s : Lapper α) (h : Inv s) (qs : Nat) :
    skipEq s.stops qs s.intervals.size (bsearchSeq compare qs s.stops) =
      s.intervals.toList.countP (fun iv => iv.stop ≤ qs) := by
  have hlen : s.stops.size = s.intervals.size := by
    rw [← Array.length_toList, h.stops_perm.length_eq, List.length_map, Array.length_toList]
  rw [bsearchSeq_nat h.stops_sorted,
    skipEq_eq (prefixClosed_lt h.stops_sorted qs).partPt (prefixClosed_le h.stops_sorted qs).partPt _ _
      (Nat.le_trans (Nat.le_of_eq hlen) (Nat.le_add_left _ _)) (Nat.le_refl _)
      (List.countP_mono_left fun x _ hx => decide_eq_true (Nat.le_of_lt (of_decide_eq_true hx))),
    h.stops_perm.countP_eq, List.countP_map]
  rfl

theorem count_last (s : Lapper α) (h : Inv s) (qe : Nat) :
    bsearchSeq compare qe s.starts = s.intervals.toList.countP (fun iv => iv.start < qe) := by
  rw [bsearchSeq_nat h.starts_sorted, h.starts_perm.countP_eq, List.countP_map]
  rfl

theorem count_eq_sub (s : Lapper α) (h : Inv s) (qs qe : Nat) :
    s.count qs qe =
      s.intervals.toList.countP (fun iv => iv.start < qe) - s.intervals.toList.countP (fun iv => iv.stop ≤ qs) := by
  rw [Lapper.count, count_first s h, count_last s h, Nat.sub_right_comm, Nat.sub_sub_self]
  exact Nat.le_trans List.countP_le_length (Nat.le_of_eq Array.length_toList)

theorem count_eq (s : Lapper α) (h : Inv s) (hw : Weak s) (qs qe : Nat) (hq : qs < qe) :
    s.count qs qe = s.intervals.toList.countP (·.ov qs qe) := by
  rw [count_eq_sub s h, ← countP_ov _ qs qe hq hw, Nat.add_sub_cancel]

end BV
