import BedVerif.Lemmas.C08Chunk
/-! C08: the sweep over the chunk sums. `F` is the step function the breakpoints define; the records written
so far tile `[p0, prevPos)` and carry the values of `F`, and a record is closed only where `F` changes. -/
namespace BV.C08

/-- reversed tiling: `M` (newest first) tiles `[a, b)` with non-empty records -/
def RT : List BG → Nat → Nat → Prop
  | [], a, b => a = b
  | x :: t, a, b => x.stop = b ∧ x.start < x.stop ∧ RT t a x.start

theorem RT_bounds (M : List BG) : ∀ a b, RT M a b →
    a ≤ b ∧ ∀ x ∈ M, a ≤ x.start ∧ x.start < x.stop ∧ x.stop ≤ b := by
  induction M with
  | nil => intro a b h; exact ⟨Nat.le_of_eq h, fun x hx => nomatch hx⟩
  | cons x t ih =>
    intro a b h
    obtain ⟨h1, h2, h3⟩ := h
    obtain ⟨i1, i2⟩ := ih _ _ h3
    refine ⟨by omega, ?_⟩
    intro y hy
    rcases List.mem_cons.mp hy with rfl | hy
    · omega
    · have := i2 y hy; omega

theorem RT_pairwise (M : List BG) : ∀ a b, RT M a b → M.Pairwise (fun x y => y.stop ≤ x.start) := by
  induction M with
  | nil => intro a b _; exact List.Pairwise.nil
  | cons x t ih =>
    intro a b h
    exact List.pairwise_cons.mpr ⟨fun y hy => ((RT_bounds t _ _ h.2.2).2 y hy).2.2, ih _ _ h.2.2⟩

theorem RT_cover (M : List BG) : ∀ a b, RT M a b →
    ∀ p, (a ≤ p ∧ p < b) ↔ ∃ x ∈ M, x.start ≤ p ∧ p < x.stop := by
  induction M with
  | nil =>
    intro a b h p
    simp only [List.not_mem_nil, false_and, exists_false, iff_false]
    have : a = b := h
    omega
  | cons x t ih =>
    intro a b h p
    obtain ⟨h1, h2, h3⟩ := h
    have hb := (RT_bounds t _ _ h3).1
    have := ih _ _ h3 p
    constructor
    · intro ⟨pa, pb⟩
      by_cases hp : p < x.start
      · obtain ⟨y, hy, e⟩ := this.mp ⟨pa, hp⟩
        exact ⟨y, List.mem_cons_of_mem _ hy, e⟩
      · exact ⟨x, List.mem_cons_self, by omega, by omega⟩
    · intro ⟨y, hy, e⟩
      rcases List.mem_cons.mp hy with rfl | hy
      · omega
      · have := this.mpr ⟨y, hy, e⟩; omega

structure Inv (c : Bytes) (p0 : Nat) (F : Nat → Int) (st : Sweep) : Prop where
  tiles : RT (st.prev :: st.out) p0 st.prevPos
  vals : ∀ x ∈ st.prev :: st.out, x.chrom = c ∧ ∀ p, x.start ≤ p → p < x.stop → x.value = F p
  stop : ∀ x ∈ st.out, F x.stop ≠ x.value

theorem step_inv (c : Bytes) (p0 : Nat) (F : Nat → Int) (st : Sweep) (q : Nat) (s : Int)
    (h : Inv c p0 F st) (hq : st.prevPos < q) (hF : ∀ p, st.prevPos ≤ p → p < q → F p = st.acc) :
    Inv c p0 F (sweepStep c st (q, s)) ∧ (sweepStep c st (q, s)).prevPos = q ∧
      (sweepStep c st (q, s)).acc = st.acc + s := by
  obtain ⟨⟨t1, t2, t3⟩, hv, ha⟩ := h
  have hne : st.prevPos ≠ q := Nat.ne_of_lt hq
  by_cases hacc : st.acc = st.prev.value
  · have e : sweepStep c st (q, s) = ⟨q, st.acc + s, { st.prev with stop := q }, st.out⟩ := by
      simp [sweepStep, hne, hacc]
    rw [e]
    refine ⟨⟨⟨rfl, by simp only; omega, t3⟩, ?_, ha⟩, rfl, rfl⟩
    intro x hx
    rcases List.mem_cons.mp hx with rfl | hx
    · have := hv st.prev List.mem_cons_self
      refine ⟨this.1, fun p hp1 hp2 => ?_⟩
      by_cases hp : p < st.prev.stop
      · exact this.2 p hp1 hp
      · exact (hacc.symm.trans (hF p (by omega) hp2).symm)
    · exact hv x (List.mem_cons_of_mem _ hx)
  · have e : sweepStep c st (q, s) = ⟨q, st.acc + s, ⟨c, st.prevPos, q, st.acc⟩, st.prev :: st.out⟩ := by
      simp [sweepStep, hne, hacc]
    rw [e]
    refine ⟨⟨⟨rfl, hq, t1, t2, t3⟩, ?_, ?_⟩, rfl, rfl⟩
    · intro x hx
      rcases List.mem_cons.mp hx with rfl | hx
      · exact ⟨rfl, fun p hp1 hp2 => (hF p hp1 hp2).symm⟩
      · exact hv x hx
    · intro x hx
      rcases List.mem_cons.mp hx with rfl | hx
      · rw [t1, hF _ (Nat.le_refl _) hq]
        exact hacc
      · exact ha x hx

theorem fold_inv (c : Bytes) (p0 : Nat) (F : Nat → Int) (rest : List Pt) : ∀ (st : Sweep),
    Inv c p0 F st → rest.Pairwise (fun a b => a.1 < b.1) → (∀ x ∈ rest, st.prevPos < x.1) →
    (∀ p, st.prevPos ≤ p → F p = st.acc + fsum (fun k => decide (k ≤ p)) rest) →
    Inv c p0 F (rest.foldl (sweepStep c) st) ∧ (∀ x ∈ rest, x.1 ≤ (rest.foldl (sweepStep c) st).prevPos) ∧
      ((rest.foldl (sweepStep c) st).prevPos = st.prevPos ∨ ∃ x ∈ rest, x.1 = (rest.foldl (sweepStep c) st).prevPos) := by
  induction rest with
  | nil => intro st h _ _ _; exact ⟨h, fun x hx => (nomatch hx), Or.inl rfl⟩
  | cons x t ih =>
    obtain ⟨q, s⟩ := x
    intro st h hp hq hF
    have hp' := List.pairwise_cons.mp hp
    have hq' : st.prevPos < q := hq (q, s) List.mem_cons_self
    obtain ⟨i1, i2, i3⟩ := step_inv c p0 F st q s h hq' (fun p h1 h2 => by
      rw [hF p h1, fsum_eq_zero, Int.add_zero]
      intro y hy
      have : q ≤ y.1 := by
        rcases List.mem_cons.mp hy with rfl | hy
        · exact Nat.le_refl _
        · exact Nat.le_of_lt (hp'.1 y hy)
      exact decide_eq_false (by omega))
    rw [List.foldl_cons]
    obtain ⟨j1, j2, j3⟩ := ih (sweepStep c st (q, s)) i1 hp'.2 (by rw [i2]; exact hp'.1) (by
      intro p hp
      rw [i2] at hp
      rw [i3, hF p (by omega), fsum_cons, if_pos (decide_eq_true hp), Int.add_assoc])
    rw [i2] at j3
    refine ⟨j1, fun y hy => ?_, Or.inr ?_⟩
    · rcases List.mem_cons.mp hy with rfl | hy
      · rcases j3 with e | ⟨z, hz, e⟩
        · exact Nat.le_of_eq e.symm
        · exact e ▸ Nat.le_of_lt (hp'.1 z hz)
      · exact j2 y hy
    · rcases j3 with e | ⟨z, hz, e⟩
      · exact ⟨(q, s), List.mem_cons_self, e.symm⟩
      · exact ⟨z, List.mem_cons_of_mem _ hz, e⟩

theorem sweep_result (c : Bytes) (p0 : Nat) (s0 : Int) (p1 : Nat) (s1 : Int) (rest : List Pt) (e : Nat)
    (hstrict : ((p0, s0) :: (p1, s1) :: rest).Pairwise (fun a b => a.1 < b.1))
    (he : ∃ v, (e, v) ∈ (p1, s1) :: rest) (hmax : ∀ x ∈ (p1, s1) :: rest, x.1 ≤ e) :
    let F : Nat → Int := fun p => fsum (fun k => decide (k ≤ p)) ((p0, s0) :: (p1, s1) :: rest)
    let st := ((p1, s1) :: rest).foldl (sweepStep c) ⟨p0, s0, ⟨c, p0, p0, s0⟩, []⟩
    let L := (st.prev :: st.out).reverse
    (∀ x ∈ L, x.chrom = c ∧ x.start < x.stop ∧ ∀ p, x.start ≤ p → p < x.stop → x.value = F p) ∧
    L.Pairwise (fun x y => x.stop ≤ y.start) ∧
    (∀ p, (p0 ≤ p ∧ p < e) ↔ ∃ x ∈ L, x.start ≤ p ∧ p < x.stop) ∧
    (∀ x ∈ L, x.stop ≠ e → F x.stop ≠ x.value) := by
  intro F st L
  have hp := List.pairwise_cons.mp hstrict
  have hp' := List.pairwise_cons.mp hp.2
  have h01 : p0 < p1 := hp.1 (p1, s1) List.mem_cons_self
  -- the first step opens the first record
  have e1 : sweepStep c ⟨p0, s0, ⟨c, p0, p0, s0⟩, []⟩ (p1, s1) = ⟨p1, s0 + s1, ⟨c, p0, p1, s0⟩, []⟩ := by
    simp [sweepStep, Nat.ne_of_lt h01]
  have hinv1 : Inv c p0 F ⟨p1, s0 + s1, ⟨c, p0, p1, s0⟩, []⟩ := by
    refine ⟨⟨rfl, h01, rfl⟩, fun x hx => ?_, fun x hx => nomatch hx⟩
    rw [List.mem_singleton.mp hx]
    refine ⟨rfl, fun p h1 h2 => ?_⟩
    show s0 = fsum _ ((p0, s0) :: (p1, s1) :: rest)
    rw [fsum_cons, if_pos (decide_eq_true h1), fsum_eq_zero, Int.add_zero]
    intro y hy
    have : p1 ≤ y.1 := by
      rcases List.mem_cons.mp hy with rfl | hy
      · exact Nat.le_refl _
      · exact Nat.le_of_lt (hp'.1 y hy)
    exact decide_eq_false (by simp only at h2; omega)
  have hst : st = rest.foldl (sweepStep c) ⟨p1, s0 + s1, ⟨c, p0, p1, s0⟩, []⟩ := by
    show List.foldl _ _ _ = _
    rw [List.foldl_cons, e1]
  obtain ⟨⟨ht, hv, ha⟩, hle, hlast⟩ := fold_inv c p0 F rest _ hinv1 hp'.2 hp'.1 (fun p hp1 => by
    show fsum _ ((p0, s0) :: (p1, s1) :: rest) = _
    rw [fsum_cons, fsum_cons, if_pos (decide_eq_true (Nat.le_trans (Nat.le_of_lt h01) hp1)),
      if_pos (decide_eq_true hp1), Int.add_assoc])
  rw [← hst] at ht hv ha hle hlast
  have hend : st.prevPos = e := by
    apply Nat.le_antisymm
    · rcases hlast with h | ⟨z, hz, h⟩
      · exact h ▸ hmax (p1, s1) List.mem_cons_self
      · exact h ▸ hmax z (List.mem_cons_of_mem _ hz)
    · obtain ⟨v, hv⟩ := he
      rcases List.mem_cons.mp hv with h | h
      · rcases hlast with h' | ⟨z, hz, h'⟩
        · exact Nat.le_of_eq ((Prod.mk.inj h).1.trans h'.symm)
        · exact (Prod.mk.inj h).1 ▸ h' ▸ Nat.le_of_lt (hp'.1 z hz)
      · exact hle _ h
  rw [hend] at ht
  refine ⟨fun x hx => ?_, List.pairwise_reverse.mpr (RT_pairwise _ _ _ ht), fun p => ?_, fun x hx hne => ?_⟩
  · have hx' : x ∈ st.prev :: st.out := List.mem_reverse.mp hx
    exact ⟨(hv x hx').1, ((RT_bounds _ _ _ ht).2 x hx').2.1, (hv x hx').2⟩
  · rw [RT_cover _ _ _ ht p]
    simp only [L, List.mem_reverse]
  · rcases List.mem_cons.mp (List.mem_reverse.mp hx) with rfl | hx
    · exact absurd ht.1 hne
    · exact ha x hx

end BV.C08
