import BedVerif.Lemmas.RecBasic
/-!
C08: the vocabulary of the specification of `merge_sorted_bedgraph` (`SortedBGs`, `coveredByBG`, `sumAt`,
`BedgraphSpec`) and a form of its six clauses that is closed under concatenation (`Pointwise`): both the
model (cluster by cluster) and the fast evaluator (chromosome by chromosome) produce their output block
by block, and `Pointwise.append` is the one place where blocks are put together.
-/
namespace BV

def SortedBGs (xs : List BG) : Prop := (xs.map BG.toRec).Pairwise (fun a b => Rec.compare a b ≠ .gt)
def coveredByBG (xs : List BG) (c : Bytes) (p : Nat) : Prop := ∃ b ∈ xs, b.chrom = c ∧ b.toRec.mem p
/-- sum of the values of the records covering position `p` of chromosome `c` -/
def sumAt (xs : List BG) (c : Bytes) (p : Nat) : Int :=
  ((xs.filter (fun b => decide (b.chrom = c ∧ b.toRec.mem p))).map (·.value)).sum

/-- the six clauses of `C08_bedgraph` / `C08_bedgraphOkB_sound` -/
def BedgraphSpec (xs out : List BG) : Prop :=
  (∀ o ∈ out, o.start < o.stop) ∧
  SortedBGs out ∧
  (∀ i (h : i + 1 < out.length), out[i].chrom ≠ out[i+1].chrom ∨ out[i].stop ≤ out[i+1].start) ∧
  (∀ c p, coveredByBG xs c p ↔ coveredByBG out c p) ∧
  (∀ o ∈ out, ∀ p, o.toRec.mem p → o.value = sumAt xs o.chrom p) ∧
  (∀ i (h : i + 1 < out.length), out[i].chrom = out[i+1].chrom → out[i].stop = out[i+1].start → out[i].value ≠ out[i+1].value)

theorem bg_mem_iff (o : BG) (p : Nat) : o.toRec.mem p ↔ o.start ≤ p ∧ p < o.stop := Iff.rfl

theorem coveredByBG_append (l₁ l₂ : List BG) (c : Bytes) (p : Nat) :
    coveredByBG (l₁ ++ l₂) c p ↔ coveredByBG l₁ c p ∨ coveredByBG l₂ c p := by
  simp only [coveredByBG, List.mem_append, or_and_right, exists_or]

theorem sumAt_append (l₁ l₂ : List BG) (c : Bytes) (p : Nat) :
    sumAt (l₁ ++ l₂) c p = sumAt l₁ c p + sumAt l₂ c p := by
  simp only [sumAt, List.filter_append, List.map_append, List.sum_append]

theorem sumAt_eq_zero {l : List BG} {c : Bytes} {p : Nat} (h : ¬ coveredByBG l c p) : sumAt l c p = 0 := by
  unfold sumAt
  rw [List.filter_eq_nil_iff.mpr (fun b hb hd => h ⟨b, hb, of_decide_eq_true hd⟩)]
  rfl

def Before (x y : BG) : Prop :=
  Rec.compare x.toRec y.toRec ≠ .gt ∧ (x.chrom ≠ y.chrom ∨ x.stop ≤ y.start)

theorem before_of_chrom {x y : BG} (h : cmpBytes x.chrom y.chrom ≠ .gt) (hc : x.chrom ≠ y.chrom) : Before x y := by
  refine ⟨(Rec.compare_ne_gt_iff _ _).mpr (Or.inl ?_), Or.inl hc⟩
  cases e : cmpBytes x.chrom y.chrom with
  | lt => exact e
  | eq => exact absurd ((cmpBytes_eq_iff _ _).mp e) hc
  | gt => exact absurd e h

theorem before_of_stop {x y : BG} (hc : x.chrom = y.chrom) (hx : x.start < x.stop) (h : x.stop ≤ y.start) :
    Before x y :=
  ⟨(Rec.compare_ne_gt_iff _ _).mpr (Or.inr ⟨hc, Or.inl (Nat.lt_of_lt_of_le hx h)⟩), Or.inr h⟩

/-- The six clauses in a form that is closed under concatenation: every clause speaks of one record or
of a pair of records. Maximality is said at the end of each record: just behind it the input is
uncovered or sums to another value. -/
structure Pointwise (xs out : List BG) : Prop where
  ne : ∀ o ∈ out, o.start < o.stop
  ord : out.Pairwise Before
  cov : ∀ c p, coveredByBG xs c p ↔ coveredByBG out c p
  val : ∀ o ∈ out, ∀ p, o.toRec.mem p → o.value = sumAt xs o.chrom p
  stop : ∀ o ∈ out, coveredByBG xs o.chrom o.stop → sumAt xs o.chrom o.stop ≠ o.value

theorem Pointwise.spec {xs out : List BG} (h : Pointwise xs out) : BedgraphSpec xs out := by
  -- maximality holds of any two records, adjacent or not: `y` carries the sum at its start
  have key : ∀ x ∈ out, ∀ y ∈ out, x.chrom = y.chrom → x.stop = y.start → x.value ≠ y.value := by
    intro x hx y hy hc hst hv
    have hm : y.toRec.mem x.stop := ⟨Nat.le_of_eq hst.symm, hst ▸ h.ne y hy⟩
    apply h.stop x hx ((h.cov _ _).mpr ⟨y, hy, hc.symm, hm⟩)
    rw [hv, hc]
    exact (h.val y hy _ hm).symm
  -- `out[i]` is never written out here: each occurrence would run `get_elem_tactic` again
  exact ⟨h.ne, List.pairwise_map.mpr (h.ord.imp (·.1)),
    fun i hi => (List.pairwise_iff_getElem.mp h.ord i (i+1) (Nat.lt_of_succ_lt hi) hi (Nat.lt_succ_self i)).2,
    h.cov, h.val, fun i hi => key _ (List.getElem_mem _) _ (List.getElem_mem _)⟩

theorem Pointwise.nil : Pointwise [] [] :=
  ⟨fun _ h => (nomatch h), List.Pairwise.nil, fun _ _ => Iff.rfl, fun _ h => (nomatch h), fun _ h => (nomatch h)⟩

theorem Pointwise.cov_start {xs out : List BG} (h : Pointwise xs out) {o : BG} (ho : o ∈ out) :
    coveredByBG xs o.chrom o.start :=
  (h.cov _ _).mpr ⟨o, ho, rfl, Nat.le_refl _, h.ne o ho⟩

theorem Pointwise.cov_last {xs out : List BG} (h : Pointwise xs out) {o : BG} (ho : o ∈ out) :
    coveredByBG xs o.chrom (o.stop - 1) :=
  (h.cov _ _).mpr ⟨o, ho, rfl, Nat.le_sub_one_of_lt (h.ne o ho), Nat.sub_one_lt (Nat.ne_of_gt (Nat.zero_lt_of_lt (h.ne o ho)))⟩

def Apart (g G : List BG) : Prop :=
  ∀ a ∈ g, ∀ b ∈ G, cmpBytes a.chrom b.chrom ≠ .gt ∧ (a.chrom ≠ b.chrom ∨ a.stop < b.start)

theorem Apart.gap {g G : List BG} (h : Apart g G) {c : Bytes} {p q : Nat}
    (hp : coveredByBG g c p) (hq : coveredByBG G c q) : p + 1 < q := by
  obtain ⟨a, ha, ac, _, a2⟩ := hp
  obtain ⟨b, hb, bc, b1, _⟩ := hq
  rcases (h a ha b hb).2 with h | h
  · exact absurd (ac.trans bc.symm) h
  · exact Nat.lt_of_le_of_lt (Nat.succ_le_of_lt a2) (Nat.lt_of_lt_of_le h b1)

theorem Pointwise.append {g o G O : List BG} (h₁ : Pointwise g o) (h₂ : Pointwise G O) (hs : Apart g G) :
    Pointwise (g ++ G) (o ++ O) where
  ne := fun x hx => (List.mem_append.mp hx).elim (h₁.ne x) (h₂.ne x)
  ord := by
    refine List.pairwise_append.mpr ⟨h₁.ord, h₂.ord, fun x hx y hy => ?_⟩
    -- `a` covers the last position of `x`, `b` the first of `y`
    obtain ⟨a, ha, ac, _, a2⟩ := h₁.cov_last hx
    obtain ⟨b, hb, bc, b1, _⟩ := h₂.cov_start hy
    obtain ⟨s1, s2⟩ := hs a ha b hb
    rw [ac, bc] at s1 s2
    by_cases hc : x.chrom = y.chrom
    · have hab : a.stop < b.start := s2.resolve_left (fun h => h hc)
      have := h₁.ne x hx
      exact before_of_stop hc this (by simp only [BG.toRec] at a2 b1; omega)
    · exact before_of_chrom s1 hc
  cov := fun c p => by rw [coveredByBG_append, coveredByBG_append, h₁.cov, h₂.cov]
  val := fun x hx p hp => by
    rw [sumAt_append]
    rcases List.mem_append.mp hx with hx | hx
    · have hc := (h₁.cov _ _).mpr ⟨x, hx, rfl, hp⟩
      rw [← h₁.val x hx p hp, sumAt_eq_zero (fun h => Nat.lt_irrefl _ (Nat.lt_of_succ_lt (hs.gap hc h))), Int.add_zero]
    · have hc := (h₂.cov _ _).mpr ⟨x, hx, rfl, hp⟩
      rw [← h₂.val x hx p hp, sumAt_eq_zero (fun h => Nat.lt_irrefl _ (Nat.lt_of_succ_lt (hs.gap h hc))), Int.zero_add]
  stop := fun x hx => by
    rw [sumAt_append, coveredByBG_append]
    rcases List.mem_append.mp hx with hx | hx
    · have hx1 := h₁.ne x hx
      have hn : ¬ coveredByBG G x.chrom x.stop := fun h => by have := hs.gap (h₁.cov_last hx) h; omega
      rw [sumAt_eq_zero hn, Int.add_zero]
      exact fun h => h₁.stop x hx (h.resolve_right hn)
    · have hx1 := h₂.ne x hx
      have hn : ¬ coveredByBG g x.chrom x.stop := fun h => by have := hs.gap h (h₂.cov_start hx); omega
      rw [sumAt_eq_zero hn, Int.zero_add]
      exact fun h => h₂.stop x hx (h.resolve_left hn)

theorem Pointwise.flatMap {ι : Type} (G O : ι → List BG) : ∀ (l : List ι), (∀ i ∈ l, Pointwise (G i) (O i)) →
    l.Pairwise (fun i j => Apart (G i) (G j)) → Pointwise (l.flatMap G) (l.flatMap O)
  | [], _, _ => Pointwise.nil
  | i :: l, h, hs => by
    have hp := List.pairwise_cons.mp hs
    rw [List.flatMap_cons, List.flatMap_cons]
    refine (h i List.mem_cons_self).append
      (Pointwise.flatMap G O l (fun j hj => h j (List.mem_cons_of_mem _ hj)) hp.2) ?_
    intro a ha b hb
    obtain ⟨j, hj, hb⟩ := List.mem_flatMap.mp hb
    exact hp.1 j hj a ha b hb

end BV
