import BedVerif.Props.C18
/-!
A fast (O(n log n)) evaluation of the specification-level `canonicalCover`, proved equal to it for
every input list: drop the empty intervals, sort by start (core `List.mergeSort`), run the linear
merge loop `mergeList`.
-/
namespace BV
variable {α : Type}

/-- canonical cover in O(n log n): drop the empty intervals, sort by start with the core merge sort, run the linear merge loop -/
def fastCover (l : List (Iv α)) : List (Nat × Nat) :=
  (mergeList ((l.filter (fun iv => iv.start < iv.stop)).mergeSort (fun a b => a.start ≤ b.start))).map (fun i => (i.start, i.stop))

/-- the filtered and sorted list: sorted by start, all intervals non-empty, same covered positions -/
theorem fastCover_prep (l : List (Iv α)) :
    let l' := (l.filter (fun iv => iv.start < iv.stop)).mergeSort (fun a b => a.start ≤ b.start)
    SortedStart l' ∧ (∀ iv ∈ l', iv.start < iv.stop) ∧ ∀ p, covered l' p ↔ covered l p := by
  intro l'
  have hmem : ∀ iv, iv ∈ l' ↔ iv ∈ l ∧ iv.start < iv.stop := fun iv => by
    rw [(List.mergeSort_perm _ _).mem_iff, List.mem_filter, decide_eq_true_eq]
  refine ⟨?_, fun iv hiv => ((hmem iv).mp hiv).2, fun p => ⟨?_, ?_⟩⟩
  · have := List.pairwise_mergeSort (le := fun (a b : Iv α) => decide (a.start ≤ b.start))
      (fun a b c hab hbc => by simp only [decide_eq_true_eq] at *; omega)
      (fun a b => by simp only [Bool.or_eq_true, decide_eq_true_eq]; omega)
      (l.filter (fun iv => iv.start < iv.stop))
    exact this.imp fun hab => of_decide_eq_true hab
  · rintro ⟨iv, hiv, hc⟩
    exact ⟨iv, ((hmem iv).mp hiv).1, hc⟩
  · rintro ⟨iv, hiv, hc⟩
    refine ⟨iv, (hmem iv).mpr ⟨hiv, ?_⟩, hc⟩
    rw [Iv.covers_iff] at hc
    omega

/-- the merged list behind `fastCover`: canonical, covering what `l` covers -/
theorem fastCover_spec (l : List (Iv α)) :
    ∃ L : List (Iv α), fastCover l = L.map (fun i => (i.start, i.stop)) ∧ Canonical L ∧ ∀ p, covered L p ↔ covered l p := by
  obtain ⟨hs, hne, hc⟩ := fastCover_prep l
  obtain ⟨h1, h2⟩ := C18_mergeList_canonical _ hs hne
  exact ⟨_, rfl, h1, fun p => (h2 p).trans (hc p)⟩

/-- `fastCover` computes the specification-level canonical cover of EVERY list (unsorted, with empty
intervals, with `start > stop`) -/
theorem fastCover_eq_canonicalCover (l : List (Iv α)) : fastCover l = canonicalCover l := by
  obtain ⟨L, h, hc, hcov⟩ := fastCover_spec l
  rw [h, C18h.canonicalCover_eq L l hc hcov]

/-- `canonicalCover` depends only on the set of covered positions (the lists may even carry
different value types) -/
theorem canonicalCover_congr {β : Type} (l : List (Iv α)) (l' : List (Iv β))
    (h : ∀ p, covered l p ↔ covered l' p) : canonicalCover l = canonicalCover l' := by
  obtain ⟨L, _, hc, hcov⟩ := fastCover_spec l
  rw [C18h.canonicalCover_eq L l hc hcov, C18h.canonicalCover_eq L l' hc fun p => (hcov p).trans (h p)]

/-! Non-vacuity checks. `decide` cannot evaluate `List.mergeSort` (well-founded recursion does not
reduce in the kernel), so the value of `fastCover` on an unsorted list with an empty and a reversed
interval is obtained through the theorem, the specification side being evaluated by the kernel; the
linear merge loop is evaluated directly on the filtered, sorted list. -/
example : fastCover [(⟨5, 9, ()⟩ : Iv Unit), ⟨1, 3, ()⟩, ⟨3, 4, ()⟩, ⟨7, 7, ()⟩, ⟨20, 2, ()⟩] = [(1, 4), (5, 9)] := by
  rw [fastCover_eq_canonicalCover]; decide

example : canonicalCover [(⟨5, 9, ()⟩ : Iv Unit), ⟨1, 3, ()⟩, ⟨3, 4, ()⟩, ⟨7, 7, ()⟩, ⟨20, 2, ()⟩] = [(1, 4), (5, 9)] := by decide

example : (mergeList [(⟨1, 3, ()⟩ : Iv Unit), ⟨3, 4, ()⟩, ⟨5, 9, ()⟩]).map (fun i => (i.start, i.stop)) = [(1, 4), (5, 9)] := by decide

#print axioms fastCover_eq_canonicalCover
end BV
