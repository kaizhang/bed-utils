import BedVerif.Spec.Rec
/-!
`cmpBytes` is core's `compare` on `List UInt8` and `Rec.compare` a lexicographic combination of field
comparisons, so their order laws are core's (`Std.ReflCmp`, `Std.OrientedCmp`, `Std.TransCmp`). A tiling
(`Tiles`) is determined by the record and the width: it is the closed form of `splitByLen_eq`, whose
arithmetic rests on `lt_ceilDiv_iff`.
-/
namespace BV

theorem cmpBytes_eq_compare : ∀ x y : Bytes, cmpBytes x y = compare x y
  | [], [] => rfl
  | [], _ :: _ => rfl
  | _ :: _, [] => rfl
  | a :: as, b :: bs => by
    rw [cmpBytes, List.compare_cons_cons, cmpBytes_eq_compare as bs]
    rcases Nat.lt_trichotomy a.toNat b.toNat with h | h | h
    · have : a < b := UInt8.lt_iff_toNat_lt.mpr h
      simp [this, Std.compare_eq_lt.mpr this]
    · obtain rfl : a = b := UInt8.toNat_inj.mp h
      simp [UInt8.lt_irrefl]
    · have : b < a := UInt8.lt_iff_toNat_lt.mpr h
      simp [this, UInt8.lt_asymm this, Std.compare_eq_gt.mpr this]

theorem cmpBytes_refl (x : Bytes) : cmpBytes x x = .eq := by
  rw [cmpBytes_eq_compare]; exact Std.ReflCmp.compare_self

theorem cmpBytes_eq_iff (x y : Bytes) : cmpBytes x y = .eq ↔ x = y := by
  rw [cmpBytes_eq_compare]; exact Std.LawfulEqCmp.compare_eq_iff_eq

theorem cmpBytes_swap (x y : Bytes) : cmpBytes x y = (cmpBytes y x).swap := by
  rw [cmpBytes_eq_compare, cmpBytes_eq_compare]; exact Std.OrientedCmp.eq_swap

theorem cmpBytes_antisymm {x y : Bytes} (h1 : cmpBytes x y ≠ .gt) (h2 : cmpBytes y x ≠ .gt) : x = y := by
  rw [cmpBytes_swap y x] at h2
  rw [← cmpBytes_eq_iff]
  cases h : cmpBytes x y <;> simp_all

theorem cmpBytes_lt_iff (x y : Bytes) : cmpBytes x y = .lt ↔ x < y := by
  induction x generalizing y with
  | nil => cases y <;> simp [cmpBytes, List.not_lt_nil, List.nil_lt_cons]
  | cons a as ih =>
    cases y with
    | nil => simp [cmpBytes, List.not_lt_nil]
    | cons b bs =>
      rw [List.cons_lt_cons_iff]
      simp only [cmpBytes, GT.gt]
      by_cases h1 : a < b
      · simp [h1]
      · by_cases h2 : b < a
        · have : a ≠ b := fun e => UInt8.lt_irrefl b (e ▸ h2)
          simp [h1, h2, this]
        · have : a = b := UInt8.le_antisymm (UInt8.not_lt.mp h2) (UInt8.not_lt.mp h1)
          subst this
          simp [h1, ih bs]

theorem Rec.compare_eq_lt_iff (a b : Rec) :
    Rec.compare a b = .lt ↔ (cmpBytes a.chrom b.chrom = .lt ∨ (a.chrom = b.chrom ∧ (a.start < b.start ∨ (a.start = b.start ∧ a.stop < b.stop)))) := by
  simp only [Rec.compare, Ordering.then_eq_lt, cmpBytes_eq_iff, Nat.compare_eq_lt, Nat.compare_eq_eq]

theorem Rec.compare_ne_gt_iff (a b : Rec) :
    Rec.compare a b ≠ .gt ↔ (cmpBytes a.chrom b.chrom = .lt ∨ (a.chrom = b.chrom ∧ (a.start < b.start ∨ (a.start = b.start ∧ a.stop ≤ b.stop)))) := by
  simp only [Rec.compare, ne_eq, Ordering.ne_gt_iff_isLE, Ordering.isLE_then_iff_or, cmpBytes_eq_iff,
    Nat.compare_eq_lt, Nat.compare_eq_eq, Nat.isLE_compare]

theorem compare_chrom {a b : Rec} (h : Rec.compare a b ≠ .gt) : cmpBytes a.chrom b.chrom ≠ .gt := by
  rcases (Rec.compare_ne_gt_iff a b).mp h with h | ⟨h, _⟩
  · rw [h]; decide
  · rw [h, cmpBytes_refl]; decide

theorem compare_start {a b : Rec} (h : Rec.compare a b ≠ .gt) (hc : a.chrom = b.chrom) : a.start ≤ b.start := by
  rcases (Rec.compare_ne_gt_iff a b).mp h with h | ⟨_, h⟩
  · rw [hc, cmpBytes_refl] at h; cases h
  · omega

theorem Rec.compare_eq_compareLex :
    Rec.compare = compareLex (compareOn (·.chrom)) (compareLex (compareOn (·.start)) (compareOn (·.stop))) := by
  funext a b; simp only [Rec.compare, cmpBytes_eq_compare]; rfl

theorem overlap_eq (a b : Rec) :
    Rec.overlap a b = if a.chrom = b.chrom ∧ max a.start b.start < min a.stop b.stop
      then some ⟨a.chrom, max a.start b.start, min a.stop b.stop⟩ else none := by
  simp only [Rec.overlap, bne_iff_ne, ne_eq, ite_not, ge_iff_le, ← Nat.not_lt]
  by_cases hc : a.chrom = b.chrom
  · by_cases hs : max a.start b.start < min a.stop b.stop
    · rw [if_pos hc, if_pos hs, if_pos ⟨hc, hs⟩]
    · rw [if_pos hc, if_neg hs, if_neg (fun h => hs h.2)]
  · rw [if_neg hc, if_neg (fun h => hc h.1)]

theorem nOverlap_eq (a b : Rec) :
    Rec.nOverlap a b = if a.chrom = b.chrom then min a.stop b.stop - max a.start b.start else 0 := by
  rw [Rec.nOverlap, overlap_eq]
  by_cases hc : a.chrom = b.chrom
  · by_cases hs : max a.start b.start < min a.stop b.stop
    · rw [if_pos ⟨hc, hs⟩, if_pos hc]; rfl
    · rw [if_neg (fun h => hs h.2), if_pos hc]; exact (Nat.sub_eq_zero_of_le (Nat.not_lt.mp hs)).symm
  · rw [if_neg (fun h => hc h.1), if_neg hc]

theorem Rec.mem_and_mem_iff (a b : Rec) (p : Nat) :
    a.mem p ∧ b.mem p ↔ max a.start b.start ≤ p ∧ p < min a.stop b.stop := by
  simp only [Rec.mem, Nat.max_le, Nat.lt_min, and_and_and_comm]

theorem Rec.exists_mem_iff (a b : Rec) :
    (∃ p, a.mem p ∧ b.mem p) ↔ max a.start b.start < min a.stop b.stop := by
  simp only [Rec.mem_and_mem_iff]
  exact ⟨fun ⟨_, h1, h2⟩ => Nat.lt_of_le_of_lt h1 h2, fun h => ⟨_, Nat.le_refl _, h⟩⟩

theorem count_ge_range (n a : Nat) : ((List.range n).filter (fun p => decide (a ≤ p))).length = n - a := by
  induction n with
  | zero => rw [Nat.zero_sub]; rfl
  | succ n ih =>
    rw [List.range_succ, List.filter_append, List.length_append, ih, List.filter_cons, List.filter_nil]
    by_cases h : a ≤ n
    · rw [if_pos (decide_eq_true h), Nat.sub_add_comm h]; rfl
    · rw [if_neg (by simpa using h), Nat.sub_eq_zero_of_le (Nat.le_of_not_le h),
        Nat.sub_eq_zero_of_le (Nat.not_le.mp h)]
      rfl

structure Tiles (r : Rec) (bin : Nat) (ps : List Rec) : Prop where
  chrom : ∀ p ∈ ps, p.chrom = r.chrom
  count : ps.length = (r.blen + bin - 1) / bin
  first : ∀ h : 0 < ps.length, ps[0].start = r.start
  last : ∀ h : 0 < ps.length, ps[ps.length - 1].stop = r.stop
  consecutive : ∀ i (h : i + 1 < ps.length), ps[i].stop = ps[i+1].start
  full : ∀ i (h : i + 1 < ps.length), ps[i].blen = bin
  lastLen : ∀ h : 0 < ps.length, 0 < ps[ps.length - 1].blen ∧ ps[ps.length - 1].blen ≤ bin

/-- mirror tiling: from the end backwards, only the piece touching the start may be short -/
structure RTiles (r : Rec) (bin : Nat) (ps : List Rec) : Prop where
  chrom : ∀ p ∈ ps, p.chrom = r.chrom
  count : ps.length = (r.blen + bin - 1) / bin
  first : ∀ h : 0 < ps.length, ps[0].stop = r.stop
  last : ∀ h : 0 < ps.length, ps[ps.length - 1].start = r.start
  consecutive : ∀ i (h : i + 1 < ps.length), ps[i].start = ps[i+1].stop
  full : ∀ i (h : i + 1 < ps.length), ps[i].blen = bin
  lastLen : ∀ h : 0 < ps.length, 0 < ps[ps.length - 1].blen ∧ ps[ps.length - 1].blen ≤ bin

/-- `⌈len / bin⌉` is the number of multiples of `bin` below `len` -/
theorem lt_ceilDiv_iff {bin : Nat} (hb : 1 ≤ bin) (len i : Nat) :
    i < (len + bin - 1) / bin ↔ i * bin < len := by
  rw [Nat.lt_div_iff_mul_lt hb, Nat.add_sub_assoc hb, Nat.add_sub_cancel]

/-- stated without subtraction: `omega` is slow on truncated subtraction in the tiling proofs -/
theorem steps_facts {s e bin n : Nat} (hb : 1 ≤ bin) (hn : n = (e - s + bin - 1) / bin) :
    (∀ i, i + 1 < n → s + i * bin + bin < e) ∧
    (0 < n → s + (n - 1) * bin < e ∧ e ≤ s + (n - 1) * bin + bin) := by
  subst hn
  refine ⟨fun i h => ?_, fun h => ⟨?_, ?_⟩⟩
  · rw [lt_ceilDiv_iff hb, Nat.add_mul] at h; omega
  · have := (lt_ceilDiv_iff hb (e - s) _).mp (Nat.sub_lt h Nat.one_pos); omega
  · have := mt (lt_ceilDiv_iff hb (e - s) ((e - s + bin - 1) / bin - 1 + 1)).mpr (by omega)
    rw [Nat.add_mul] at this; omega

theorem splitByLen_eq (r : Rec) (bin : Nat) (hb : 1 ≤ bin) (hmax : r.stop ≤ U64MAX) :
    splitByLen r bin = .ok ((List.range ((r.blen + bin - 1) / bin)).map
      (fun i => ⟨r.chrom, r.start + i * bin, min (r.start + i * bin + bin) r.stop⟩)) := by
  rw [splitByLen, if_neg (Nat.ne_of_gt hb), stepPoints]
  congr 1
  apply List.ext_getElem
  · simp [Rec.blen]
  · intro i h1 h2
    -- the saturation at `u64::MAX` is absorbed by the `min` with `r.stop`
    simp only [List.getElem_map, List.getElem_range', List.getElem_range, satAdd]
    rw [Nat.mul_comm bin i, Nat.min_assoc, Nat.min_eq_right hmax]

theorem rsplitByLen_eq (r : Rec) (bin : Nat) (hb : 1 ≤ bin) :
    rsplitByLen r bin = .ok ((List.range ((r.blen + bin - 1) / bin)).map
      (fun i => ⟨r.chrom, max (r.stop - i * bin - bin) r.start, r.stop - i * bin⟩)) := by
  unfold rsplitByLen rstepPoints
  have : bin ≠ 0 := by omega
  simp only [this, if_false, Rec.blen, List.map_map]
  rfl

theorem tiles_pieces (r : Rec) (bin : Nat) (hb : 1 ≤ bin) :
    Tiles r bin ((List.range ((r.blen + bin - 1) / bin)).map
      (fun i => ⟨r.chrom, r.start + i * bin, min (r.start + i * bin + bin) r.stop⟩)) := by
  obtain ⟨hfull, hlast⟩ := steps_facts (s := r.start) (e := r.stop) hb rfl
  refine ⟨?_, ?_, ?_, ?_, ?_, ?_, ?_⟩ <;>
    simp only [List.length_map, List.length_range, List.getElem_map, List.getElem_range, List.mem_map,
      Rec.blen]
  · rintro p ⟨i, _, rfl⟩; rfl
  · intro; rw [Nat.zero_mul]; rfl
  · intro h; exact Nat.min_eq_right (hlast h).2
  · intro i h; rw [Nat.min_eq_left (Nat.le_of_lt (hfull i h)), Nat.add_mul, Nat.one_mul, Nat.add_assoc]
  · intro i h; rw [Nat.min_eq_left (Nat.le_of_lt (hfull i h)), Nat.add_sub_cancel_left]
  · intro h; rw [Nat.min_eq_right (hlast h).2]; have := hlast h; omega

theorem rtiles_pieces (r : Rec) (bin : Nat) (hb : 1 ≤ bin) :
    RTiles r bin ((List.range ((r.blen + bin - 1) / bin)).map
      (fun i => ⟨r.chrom, max (r.stop - i * bin - bin) r.start, r.stop - i * bin⟩)) := by
  obtain ⟨hfull, hlast⟩ := steps_facts (s := r.start) (e := r.stop) hb rfl
  refine ⟨?_, ?_, ?_, ?_, ?_, ?_, ?_⟩ <;>
    simp only [List.length_map, List.length_range, List.getElem_map, List.getElem_range, List.mem_map,
      Rec.blen]
  · rintro p ⟨i, _, rfl⟩; rfl
  · intro; rw [Nat.zero_mul]; rfl
  · intro h; have := hlast h; exact Nat.max_eq_right (by omega)
  · intro i h; have := hfull i h
    rw [Nat.max_eq_left (by omega), Nat.add_mul, Nat.one_mul, Nat.sub_sub]
  · intro i h; have := hfull i h
    rw [Nat.max_eq_left (by omega), Nat.sub_sub_self (by omega)]
  · intro h; have := hlast h
    rw [Nat.max_eq_right (by omega)]; omega

theorem Tiles.start_eq {r : Rec} {bin : Nat} {ps : List Rec} (hb : 1 ≤ bin) (h : Tiles r bin ps) :
    ∀ i (hi : i < ps.length), ps[i].start = r.start + i * bin := by
  intro i
  induction i with
  | zero => intro hi; simpa using h.first hi
  | succ i ih =>
    intro hi
    have h1 := h.consecutive i hi
    have h2 := h.full i hi
    have h3 := ih (by omega)
    rw [Rec.blen] at h2
    rw [Nat.add_mul]
    omega

theorem Tiles.stop_eq {r : Rec} {bin : Nat} {ps : List Rec} (hb : 1 ≤ bin) (h : Tiles r bin ps)
    (i : Nat) (hi : i < ps.length) : ps[i].stop = min (r.start + i * bin + bin) r.stop := by
  by_cases hlt : i + 1 < ps.length
  · have h2 : (i + 1) * bin < r.stop - r.start := (lt_ceilDiv_iff hb _ _).mp (h.count ▸ hlt)
    rw [Nat.add_mul, Nat.one_mul] at h2
    rw [h.consecutive i hlt, h.start_eq hb (i + 1) hlt, Nat.add_mul, Nat.one_mul, ← Nat.add_assoc,
      Nat.min_eq_left (by omega)]
  · obtain rfl : i = ps.length - 1 := by omega
    have h2 := (h.lastLen (by omega)).2
    rw [Rec.blen, h.last (by omega), h.start_eq hb _ hi] at h2
    rw [h.last (by omega), Nat.min_eq_right (by omega)]

theorem splitByLen_ok_iff_tiles (r : Rec) (bin : Nat) (ps : List Rec) (hb : 1 ≤ bin) (hmax : r.stop ≤ U64MAX) :
    splitByLen r bin = .ok ps ↔ Tiles r bin ps := by
  rw [splitByLen_eq r bin hb hmax, Out.ok.injEq]
  constructor
  · rintro rfl; exact tiles_pieces r bin hb
  · intro h
    apply List.ext_getElem
    · rw [List.length_map, List.length_range, h.count]
    · intro i _ hi
      rw [List.getElem_map, List.getElem_range, ← h.stop_eq hb i hi, ← h.start_eq hb i hi,
        ← h.chrom _ (List.getElem_mem hi)]

theorem div_eq_iff_mul_le_lt {bin : Nat} (hb : 1 ≤ bin) (q i : Nat) :
    q / bin = i ↔ i * bin ≤ q ∧ q < i * bin + bin := by
  rw [Nat.le_antisymm_iff, ← Nat.lt_succ_iff, Nat.div_lt_iff_lt_mul hb, Nat.le_div_iff_mul_le hb, Nat.succ_mul,
    and_comm]

theorem piece_mem_iff {s e bin : Nat} (hb : 1 ≤ bin) (i p : Nat) :
    (s + i * bin ≤ p ∧ p < min (s + i * bin + bin) e) ↔ (s ≤ p ∧ p < e) ∧ (p - s) / bin = i := by
  rw [div_eq_iff_mul_le_lt hb, Nat.lt_min]; omega

theorem Tiles.mem_iff {r : Rec} {bin : Nat} {ps : List Rec} (hb : 1 ≤ bin) (h : Tiles r bin ps)
    (i : Nat) (hi : i < ps.length) (p : Nat) : ps[i].mem p ↔ r.mem p ∧ (p - r.start) / bin = i := by
  unfold Rec.mem
  rw [h.start_eq hb i hi, h.stop_eq hb i hi, piece_mem_iff hb]

instance : Std.TransCmp Rec.compare := Rec.compare_eq_compareLex ▸ inferInstance

end BV
