import BedVerif.Spec.Coverage
import BedVerif.Lemmas.CounterAlg
/-!
The dense and sparse region counters (C05). The dense counter is, at every moment, the state the
specification prescribes for the operations since the last reset (`specState`); the sparse counter
is the dense one stored sparsely (`Sparse.view`), step by step.
-/
namespace BV

theorem foldl_addAt_tab (F : Nat → Int) (n : Nat) (idxs : List Nat) (k : Int) :
    idxs.foldl (fun c i => addAt c i k) ((List.range n).map F) =
      (List.range n).map (fun j => F j + hits idxs j k) := by
  apply List.ext_getElem?
  intro j
  rw [getElem?_foldl_addAt]
  by_cases hj : j < n <;> simp [hj]

/-- one step of `sinceReset` -/
def srStep (acc : List COp) (o : COp) : List COp := match o with | .reset => [] | o => acc ++ [o]

theorem sinceReset_eq (ops : List COp) : sinceReset ops = ops.foldl srStep [] := rfl

/-- the state the specification prescribes after the reset-free history `pre` -/
def specState (regions : List Rec) (pre : List COp) : Dense :=
  ⟨(List.range regions.length).map (fun i => (pre.map (contrib regions i)).sum), (pre.map mult).sum⟩

theorem dense_step (regions : List Rec) (pre : List COp) (o : COp) :
    Dense.step (IndexSet.fromIter regions) (specState regions pre) o = specState regions (srStep pre o) := by
  cases o with
  | insert tag k =>
    simp only [Dense.step, specState, srStep, foldl_addAt_tab, List.map_append, List.sum_append,
      List.map_cons, List.map_nil, List.sum_cons, List.sum_nil, mult, Int.add_zero, Dense.mk.injEq, and_true]
    refine List.map_congr_left fun j hj => ?_
    rw [hits_findIndexOf, contrib]
    simp only [List.mem_range.mp hj, true_and]
  | insertAt i k =>
    -- `insert_at_index` is an insert whose hit list is `[i]`
    simp only [Dense.step, specState, srStep, List.map_append, List.sum_append,
      List.map_cons, List.map_nil, List.sum_cons, List.sum_nil, mult, Int.add_zero, Dense.mk.injEq, and_true]
    exact (foldl_addAt_tab _ _ [i] k).trans (List.map_congr_left fun j _ => by simp [hits, contrib, eq_comm])
  | reset => simp [Dense.step, specState, srStep]

/-- no in-range hypothesis is needed: an `insert_at_index` out of range changes no count in the
model (the Rust would panic), and the specification counts nothing for it either -/
theorem dense_run_eq (regions : List Rec) (ops : List COp) :
    Dense.run regions ops = specState regions (sinceReset ops) := by
  have h0 : Dense.init regions = specState regions [] := by simp [Dense.init, specState, List.map_const']
  rw [Dense.run, h0, sinceReset_eq]
  exact List.foldl_hom (specState regions) (dense_step regions)

theorem length_dense_step (ix : IndexSet) (s : Dense) (o : COp) :
    (Dense.step ix s o).counts.length = s.counts.length := by
  cases o with
  | insert tag k => exact length_foldl_addAt _ _ _
  | insertAt i k => exact length_addAt _ _ _
  | reset => exact List.length_map _

/-- a sparse counter seen as a dense one over `n` regions -/
def Sparse.view (n : Nat) (s : Sparse) : Dense := ⟨asVec n s.m, s.total⟩

theorem sparse_step (ix : IndexSet) (n : Nat) (s : Sparse) (o : COp) (hs : KSorted s.m) :
    KSorted (Sparse.step ix s o).m ∧ (Sparse.step ix s o).view n = Dense.step ix (s.view n) o := by
  cases o with
  | insert tag k =>
    obtain ⟨h1, h2⟩ := asVec_foldl_mapAdd n id k (ix.findIndexOf tag) s.m hs
    exact ⟨h1, congrArg (Dense.mk · _) h2⟩
  | insertAt i k => exact ⟨mapAdd_sorted _ _ _ hs, congrArg (Dense.mk · _) (asVec_mapAdd n _ _ _ hs)⟩
  | reset =>
    refine ⟨List.Pairwise.nil, congrArg (Dense.mk · _) ?_⟩
    show List.replicate n 0 = (asVec n s.m).map (fun _ => 0)
    rw [List.map_const', length_asVec]

theorem sparse_run (regions : List Rec) (ops : List COp) :
    KSorted (Sparse.run regions ops).m ∧
      (Sparse.run regions ops).view regions.length = Dense.run regions ops := by
  have h0 : (⟨[], 0⟩ : Sparse).view regions.length = Dense.init regions :=
    congrArg (Dense.mk · _) List.map_const'.symm
  exact List.foldl_rel (r := fun (s : Sparse) d => KSorted s.m ∧ s.view regions.length = d)
    ⟨List.Pairwise.nil, h0⟩ fun o _ s d ⟨hs, hv⟩ => hv ▸ sparse_step _ _ s o hs

theorem findIndexOf_lt (regions : List Rec) (tag : Rec) :
    ∀ i ∈ (IndexSet.fromIter regions).findIndexOf tag, i < regions.length := fun _ hi =>
  List.mem_range.mp (List.mem_filter.mp ((C11_findIndexOf_perm regions tag).mem_iff.mp hi)).1

theorem sparse_keys_lt (regions : List Rec) (ops : List COp) (h : InRange regions.length ops) :
    ∀ kv ∈ (Sparse.run regions ops).m, kv.1 < regions.length := by
  refine List.foldlRecOn (motive := fun (s : Sparse) => ∀ kv ∈ s.m, kv.1 < regions.length) ops _
    (fun _ h => nomatch h) fun s hs o ho => ?_
  cases o with
  | insert tag k =>
    exact List.foldlRecOn (motive := fun (m : List (Nat × Int)) => ∀ kv ∈ m, kv.1 < regions.length) _ _ hs
      fun m hm i hi => mapAdd_forall (· < regions.length) m i k hm (findIndexOf_lt regions tag i hi)
  | insertAt i k => exact mapAdd_forall (· < regions.length) _ i k hs (h _ ho i k rfl)
  | reset => exact fun _ h => nomatch h

end BV
