import BedVerif.Spec.Text
/-! C03 helpers: decimal rendering / parsing of numbers -/
namespace BV
namespace C03

/-- `s` is a decimal numeral of `n`: digits only, at least one, of value `n` -/
structure Decimal (s : Bytes) (n : Nat) : Prop where
  ne_nil : s ≠ []
  all : s.all isDigit = true
  val : digitsVal s = n

theorem digit_spec (d : Nat) (h : d < 10) :
    isDigit (48 + d.toUInt8) = true ∧ (48 + d.toUInt8 : UInt8).toNat - 48 = d := by
  have : ∀ d : Fin 10, isDigit (48 + d.val.toUInt8) = true ∧ (48 + d.val.toUInt8 : UInt8).toNat - 48 = d.val := by
    decide
  exact this ⟨d, h⟩

theorem Decimal.digit {d : Nat} (h : d < 10) : Decimal [48 + d.toUInt8] d where
  ne_nil := List.cons_ne_nil _ _
  all := by rw [List.all_cons, (digit_spec d h).1]; rfl
  val := by rw [digitsVal, List.foldl_cons, (digit_spec d h).2]; exact Nat.zero_add d

theorem Decimal.snoc {s : Bytes} {m d : Nat} (hs : Decimal s m) (h : d < 10) :
    Decimal (s ++ [48 + d.toUInt8]) (m * 10 + d) where
  ne_nil := List.append_ne_nil_of_right_ne_nil _ (List.cons_ne_nil _ _)
  all := by rw [List.all_append, hs.all, List.all_cons, (digit_spec d h).1]; rfl
  val := by rw [digitsVal, List.foldl_append, ← digitsVal, hs.val, List.foldl_cons, (digit_spec d h).2]; rfl

theorem digitsAux_decimal : ∀ (fuel n : Nat) (acc : Bytes), n < fuel →
    ∃ ds, digitsAux fuel n acc = ds ++ acc ∧ Decimal ds n := by
  intro fuel
  induction fuel with
  | zero => intro n acc h; exact absurd h (Nat.not_lt_zero n)
  | succ fuel ih =>
    intro n acc h
    rw [digitsAux]
    split
    · exact ⟨_, rfl, .digit ‹_›⟩
    · obtain ⟨ds, he, hd⟩ := ih (n / 10) ((48 + (n % 10).toUInt8) :: acc) (by omega)
      refine ⟨ds ++ [48 + (n % 10).toUInt8], by rw [he, List.append_assoc]; rfl, ?_⟩
      have := hd.snoc (Nat.mod_lt n (by decide : 10 > 0))
      rwa [Nat.div_add_mod' n 10] at this

theorem showNat_decimal (n : Nat) : Decimal (showNat n) n := by
  obtain ⟨ds, he, hd⟩ := digitsAux_decimal (n + 1) n [] (by omega)
  rw [showNat, he, List.append_nil]
  exact hd

/-- a digit is none of the bytes that sign, delimit or end a field -/
theorem isDigit_ne {c d : UInt8} (hc : isDigit c = true) (hd : isDigit d = false) : c ≠ d := by
  rintro rfl
  rw [hc] at hd
  cases hd

theorem Decimal.mem_digit {s : Bytes} {n : Nat} (h : Decimal s n) : ∀ c ∈ s, isDigit c = true :=
  List.all_eq_true.mp h.all

theorem Decimal.head {s : Bytes} {n : Nat} (h : Decimal s n) : ∃ c t, s = c :: t ∧ isDigit c = true := by
  cases s with
  | nil => exact absurd rfl h.ne_nil
  | cons c t => exact ⟨c, t, rfl, h.mem_digit c List.mem_cons_self⟩

theorem Decimal.ne_DOT {s : Bytes} {n : Nat} (h : Decimal s n) : s ≠ DOT := by
  rintro rfl
  exact absurd h.all (by decide)

theorem Decimal.parseUnsigned_eq {s : Bytes} {n max : Nat} (h : Decimal s n) (hle : n ≤ max) :
    parseUnsigned max s = some n := by
  obtain ⟨c, t, rfl, hc⟩ := h.head
  unfold parseUnsigned
  split
  · rename_i heq
    exact absurd (List.cons.inj heq).1 (isDigit_ne hc rfl)
  · simp only [h.all, h.val]
    simp [hle]

theorem parseUnsigned_showNat (max n : Nat) (h : n ≤ max) : parseUnsigned max (showNat n) = some n :=
  (showNat_decimal n).parseUnsigned_eq h

theorem Decimal.parseI64_eq {s : Bytes} {n : Nat} (h : Decimal s n) (hn : n < 2^63) : parseI64 s = some (n : Int) := by
  obtain ⟨c, t, rfl, hc⟩ := h.head
  unfold parseI64
  split
  · rename_i heq
    exact absurd (List.cons.inj heq).1 (isDigit_ne hc rfl)
  · rw [h.parseUnsigned_eq (Nat.le_sub_one_of_lt hn)]; rfl

theorem Decimal.parseI64_neg {s : Bytes} {n : Nat} (h : Decimal s n) (hn : n ≤ 2^63) :
    parseI64 (DASH :: s) = some (-(n : Int)) := by
  show parseI64 (45 :: s) = _
  simp only [parseI64, h.all, h.val]
  simp [h.ne_nil, hn]

theorem parseI64_showInt (i : Int) (h : -(2^63 : Int) ≤ i ∧ i < 2^63) : parseI64 (showInt i) = some i := by
  unfold showInt
  split
  · rw [(showNat_decimal _).parseI64_neg (by omega)]; congr 1; omega
  · rw [(showNat_decimal _).parseI64_eq (by omega)]; congr 1; omega

theorem parseScore_showNat (n : Nat) (h : n ≤ U32MAX) : parseScore (showNat n) = some (min n 1000) := by
  rw [parseScore, parseUnsigned_showNat _ _ h]
  simp only [Option.map_some]
  congr 1
  split <;> omega

end C03
end BV
