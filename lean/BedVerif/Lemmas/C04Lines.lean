import BedVerif.Spec.Text
/-!
A stream has one of three forms: empty, a non-empty tail without LF, or `l ++ LF :: rest` with no LF in
`l`. `takeLine` and `rawLines` are characterised on these forms, `line_induction` is the matching
induction principle, and `lines` is `rawLines` with the fuel that `readAll` and `specItems` use, so that
fuel appears in no statement about `lines`.
-/
namespace BV
variable {β : Type}

theorem takeLine_append_of_not_mem {l : Bytes} (h : LF ∉ l) (rest : Bytes) :
    takeLine (l ++ rest) = (l ++ (takeLine rest).1, (takeLine rest).2) := by
  induction l with
  | nil => rfl
  | cons c cs ih =>
    rw [List.mem_cons, not_or] at h
    simp only [List.cons_append, takeLine, beq_eq_false_iff_ne.mpr (Ne.symm h.1), ih h.2,
      Bool.false_eq_true, ↓reduceIte]

theorem takeLine_of_not_mem {l : Bytes} (h : LF ∉ l) : takeLine l = (l, []) := by
  simpa only [List.append_nil, takeLine] using takeLine_append_of_not_mem h []

theorem takeLine_LF {l : Bytes} (h : LF ∉ l) (rest : Bytes) :
    takeLine (l ++ LF :: rest) = (l ++ [LF], rest) :=
  takeLine_append_of_not_mem h (LF :: rest)

theorem length_lt_append_cons {α : Type} (l : List α) (a : α) (r : List α) :
    r.length < (l ++ a :: r).length := by
  rw [List.length_append, List.length_cons]
  omega

theorem line_induction {motive : Bytes → Prop} (tail : ∀ l, LF ∉ l → motive l)
    (line : ∀ l rest, LF ∉ l → motive rest → motive (l ++ LF :: rest)) (s : Bytes) : motive s := by
  induction hn : s.length using Nat.strongRecOn generalizing s with
  | ind n ih =>
    by_cases h : LF ∈ s
    · obtain ⟨l, r, rfl, hl⟩ := List.eq_append_cons_of_mem h
      exact line l r hl (ih r.length (hn ▸ length_lt_append_cons l LF r) r rfl)
    · exact tail s h

theorem takeLine_append (s : Bytes) : (takeLine s).1 ++ (takeLine s).2 = s := by
  induction s with
  | nil => rfl
  | cons c cs ih =>
    rw [takeLine]
    split
    · rfl
    · exact congrArg (c :: ·) ih

theorem rawLines_nil (fuel : Nat) : rawLines fuel [] = [] := by
  cases fuel <;> rfl

theorem rawLines_succ (fuel : Nat) {input : Bytes} (h : input ≠ []) :
    rawLines (fuel + 1) input = (takeLine input).1 :: rawLines fuel (takeLine input).2 := by
  cases input with
  | nil => contradiction
  | cons c cs => rfl

theorem rawLines_LF (fuel : Nat) {l : Bytes} (h : LF ∉ l) (rest : Bytes) :
    rawLines (fuel + 1) (l ++ LF :: rest) = (l ++ [LF]) :: rawLines fuel rest := by
  rw [rawLines_succ fuel (List.append_ne_nil_of_right_ne_nil l (List.cons_ne_nil LF rest)), takeLine_LF h]

theorem rawLines_of_not_mem (fuel : Nat) {l : Bytes} (h : LF ∉ l) (hne : l ≠ []) :
    rawLines (fuel + 1) l = [l] := by
  rw [rawLines_succ fuel hne, takeLine_of_not_mem h, rawLines_nil]

def lines (input : Bytes) : List Bytes := rawLines (input.length + 1) input

theorem rawLines_eq_lines (s : Bytes) : ∀ fuel, s.length < fuel → rawLines fuel s = lines s := by
  induction s using line_induction with
  | tail l hl =>
    intro fuel hf
    obtain ⟨a, rfl⟩ := Nat.exists_eq_add_one_of_ne_zero (Nat.ne_zero_of_lt hf)
    by_cases hne : l = []
    · rw [hne, rawLines_nil]; rfl
    · rw [lines, rawLines_of_not_mem a hl hne, rawLines_of_not_mem _ hl hne]
  | line l rest hl ih =>
    intro fuel hf
    obtain ⟨a, rfl⟩ := Nat.exists_eq_add_one_of_ne_zero (Nat.ne_zero_of_lt hf)
    rw [lines, rawLines_LF a hl, rawLines_LF _ hl, ih _ (length_lt_append_cons l LF rest),
      ih a (Nat.lt_of_lt_of_le (length_lt_append_cons l LF rest) (Nat.le_of_lt_succ hf))]

theorem lines_of_not_mem {l : Bytes} (h : LF ∉ l) (hne : l ≠ []) : lines l = [l] :=
  rawLines_of_not_mem _ h hne

theorem lines_LF {l : Bytes} (h : LF ∉ l) (rest : Bytes) :
    lines (l ++ LF :: rest) = (l ++ [LF]) :: lines rest := by
  rw [lines, rawLines_LF _ h, rawLines_eq_lines rest _ (length_lt_append_cons l LF rest)]

theorem mem_dropLast_cons {α : Type} {a b : α} {l : List α} (h : a ∈ (b :: l).dropLast) :
    a = b ∨ a ∈ l.dropLast := by
  cases l with
  | nil => cases h
  | cons c l => exact List.mem_cons.mp h

theorem lines_spec (s : Bytes) :
    (lines s).flatten = s ∧ (∀ l ∈ lines s, l ≠ [] ∧ LF ∉ l.dropLast) ∧
      ∀ l ∈ (lines s).dropLast, l.getLast? = some LF := by
  induction s using line_induction with
  | tail l hl =>
    by_cases hne : l = []
    · subst hne
      exact ⟨rfl, fun _ h => absurd h List.not_mem_nil, fun _ h => absurd h List.not_mem_nil⟩
    · rw [lines_of_not_mem hl hne]
      refine ⟨List.append_nil l, fun x hx => ?_, fun _ h => absurd h List.not_mem_nil⟩
      rw [List.mem_singleton.mp hx]
      exact ⟨hne, fun h => hl (List.dropLast_subset _ h)⟩
  | line l rest hl ih =>
    obtain ⟨h1, h2, h3⟩ := ih
    rw [lines_LF hl]
    refine ⟨?_, fun x hx => ?_, fun x hx => ?_⟩
    · rw [List.flatten_cons, h1, List.append_assoc]; rfl
    · rcases List.mem_cons.mp hx with rfl | hx
      · rw [List.dropLast_concat]
        exact ⟨List.append_ne_nil_of_right_ne_nil _ (List.cons_ne_nil _ _), hl⟩
      · exact h2 x hx
    · rcases mem_dropLast_cons hx with rfl | hx
      · exact List.getLast?_concat
      · exact h3 x hx

theorem lines_append {pre : Bytes} (h : pre = [] ∨ pre.getLast? = some LF) (rest : Bytes) :
    lines (pre ++ rest) = lines pre ++ lines rest := by
  rcases h with rfl | h
  · rfl
  · obtain ⟨q, rfl⟩ := List.getLast?_eq_some_iff.mp h
    clear h
    induction q using line_induction with
    | tail l hl => rw [List.append_assoc, List.singleton_append, lines_LF hl, lines_LF hl]; rfl
    | line l r hl ih =>
      rw [List.append_assoc l, List.append_assoc l, List.cons_append, List.cons_append, lines_LF hl,
        lines_LF hl, ih]
      rfl

theorem items_eq_filterMap (parse : Bytes → Outcome PErr β) (pfx : Option Bytes) (fuel : Nat) :
    ∀ input : Bytes, items parse pfx fuel input = (rawLines fuel input).filterMap (classifyLine parse pfx) := by
  induction fuel with
  | zero => intro input; rfl
  | succ n ih =>
    intro input
    cases input with
    | nil => rfl
    | cons c cs =>
      rw [rawLines_succ n (List.cons_ne_nil c cs), List.filterMap_cons, ← ih, items]
      simp only [List.isEmpty_cons, Bool.false_eq_true, ↓reduceIte]
      cases classifyLine parse pfx (takeLine (c :: cs)).1 <;> rfl

theorem readAll_eq_lines (parse : Bytes → Outcome PErr β) (pfx : Option Bytes) (input : Bytes) :
    readAll parse pfx input = (lines input).filterMap (classifyLine parse pfx) :=
  items_eq_filterMap parse pfx _ input

end BV
