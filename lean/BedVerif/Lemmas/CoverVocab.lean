import BedVerif.Lemmas.Sort
import BedVerif.Spec.Lapper
/-! Position vocabulary of the statements of C18, C19, C20 (`covered`, `Canonical`, `IsDepthRLE`)
and its lemmas; free of the index and its invariant. -/
namespace BV
variable {α : Type}

/-- position `p` is covered by some interval of `l` -/
def covered (l : List (Iv α)) (p : Nat) : Prop := ∃ iv ∈ l, iv.covers p = true

theorem Iv.covers_iff (iv : Iv α) (p : Nat) : iv.covers p = true ↔ iv.start ≤ p ∧ p < iv.stop := by
  simp only [Iv.covers, Bool.and_eq_true, decide_eq_true_eq]

theorem covered_nil (p : Nat) : ¬ covered ([] : List (Iv α)) p := fun ⟨_, h, _⟩ => nomatch h

theorem covered_cons_iff (a : Iv α) (l : List (Iv α)) (p : Nat) :
    covered (a :: l) p ↔ a.covers p = true ∨ covered l p := by
  simp only [covered, List.mem_cons, exists_eq_or_imp]

theorem covered_append (l₁ l₂ : List (Iv α)) (p : Nat) :
    covered (l₁ ++ l₂) p ↔ covered l₁ p ∨ covered l₂ p := by
  simp only [covered, List.mem_append, or_and_right, exists_or]

theorem covered_perm_iff {l₁ l₂ : List (Iv α)} (h : l₁.Perm l₂) (p : Nat) : covered l₁ p ↔ covered l₂ p :=
  exists_congr fun _ => and_congr_left fun _ => h.mem_iff

theorem coveredB_iff_covered (l : List (Iv α)) (p : Nat) : coveredB l p = true ↔ covered l p :=
  List.any_eq_true

theorem depthOf_pos (l : List (Iv α)) (p : Nat) : 0 < depthOf l p ↔ covered l p :=
  List.countP_pos_iff

theorem maxStop_ge (l : List (Iv α)) : ∀ iv ∈ l, iv.stop ≤ maxStop l :=
  (foldl_running_max (f := Iv.stop) (fun _ _ => ⟨Nat.le_max_left _ _, Nat.le_max_right _ _⟩) l 0).2

/-- non-empty intervals, ascending, pairwise disjoint and non-adjacent -/
def Canonical (l : List (Iv α)) : Prop :=
  (∀ iv ∈ l, iv.start < iv.stop) ∧ l.Pairwise (fun a b => a.stop < b.start)

/-- `runs` is the maximal run-length encoding of the pointwise depth of `l` -/
structure IsDepthRLE (l : List (Iv α)) (runs : List (Iv Nat)) : Prop where
  nonempty : ∀ r ∈ runs, r.start < r.stop
  ascending : runs.Pairwise (fun a b => a.stop ≤ b.start)
  /-- inside a run the depth is constant, positive, and equal to the run's value -/
  value : ∀ r ∈ runs, ∀ p, r.covers p = true → depthOf l p = r.val ∧ 0 < r.val
  /-- the runs tile exactly the covered positions -/
  tiles : ∀ p, covered l p ↔ ∃ r ∈ runs, r.covers p = true
  /-- two adjacent runs differ in depth -/
  maximal : ∀ i (h : i + 1 < runs.length), runs[i].stop = runs[i+1].start → runs[i].val ≠ runs[i+1].val

end BV
