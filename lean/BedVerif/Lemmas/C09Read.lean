import BedVerif.Lemmas.C09BufRead
/-!
The chunk read from the bare storage: it is the read through a `BufReader` of capacity 0, which passes
every `read` on. So what `Lemmas/C09BufRead.lean` shows for every capacity holds for `chunkItems`.
-/
namespace BV

theorem readExactLoop_bare : ∀ (f g : Nat) (s : RStore) (n : Nat) (acc : Bytes),
    n + s.plan.length < f → n + s.plan.length < g →
    BufR.readExactLoop f ⟨0, [], s⟩ n acc = ((readExact g s n acc).1, ⟨0, [], (readExact g s n acc).2⟩) := by
  intro f
  induction f with
  | zero => intro g s n acc h; exact absurd h (Nat.not_lt_zero _)
  | succ f ih =>
    intro g s n acc hf hg
    cases g with
    | zero => exact absurd hg (Nat.not_lt_zero _)
    | succ g =>
    unfold BufR.readExactLoop readExact
    rw [BufR.read_bypass s (Nat.zero_le n)]
    split
    · rfl
    · rename_i h0
      obtain ⟨suf, h⟩ := s.read_spec n (Nat.pos_of_ne_zero h0)
      have hl := suf.length_le
      generalize s.read n = q at h hl ⊢
      obtain ⟨res, s'⟩ := q
      rcases h with ⟨rfl, _⟩ | ⟨rfl, _, hlt⟩ | ⟨t, rfl, _, _, _⟩
      · rfl
      · exact ih g s' n acc (readExact_fuel_step (Nat.le_refl n) hl (.inr hlt) hf)
          (readExact_fuel_step (Nat.le_refl n) hl (.inr hlt) hg)
      · simp only
        split
        · rfl
        · rename_i he
          have hd : n - t.length < n := Nat.sub_lt (Nat.pos_of_ne_zero h0)
            (List.length_pos_iff.mpr fun h => he (List.isEmpty_iff.mpr h))
          exact ih g s' _ _ (readExact_fuel_step (Nat.sub_le ..) hl (.inl hd) hf)
            (readExact_fuel_step (Nat.sub_le ..) hl (.inl hd) hg)

/-- `chunkNext` gives `read_exact` the fuel `n + plan + 1`, `chunkNextBuf` gives it `n + plan + 2` -/
theorem readExact_bare (s : RStore) (n : Nat) : (BufR.mk 0 [] s).readExact (n + s.plan.length + 2) n =
    ((readExact (n + s.plan.length + 1) s n []).1, ⟨0, [], (readExact (n + s.plan.length + 1) s n []).2⟩) := by
  rw [← readExactLoop_bare (n + s.plan.length + 2) _ s n [] (Nat.lt_add_of_pos_right Nat.two_pos)
    (Nat.lt_succ_self _)]
  unfold BufR.readExact
  split
  · -- served from the (empty) buffer: `n = 0`
    rename_i h
    cases Nat.le_zero.mp h
    rfl
  · rfl

theorem chunkNextBuf_bare (s : RStore) :
    chunkNextBuf ⟨0, [], s⟩ = ((chunkNext s).1, ⟨0, [], (chunkNext s).2⟩) := by
  unfold chunkNextBuf chunkNext
  rw [readExact_bare s 8]
  generalize readExact (8 + s.plan.length + 1) s 8 [] = q
  obtain ⟨res, s1⟩ := q
  cases res with
  | eof => rfl
  | err => rfl
  | ok hdr =>
    simp only
    rw [readExact_bare s1]
    generalize readExact (unle64 hdr + s1.plan.length + 1) s1 (unle64 hdr) [] = q
    obtain ⟨res, s2⟩ := q
    cases res <;> rfl

theorem chunkItemsBuf_bare : ∀ (fuel : Nat) (s : RStore), chunkItemsBuf fuel ⟨0, [], s⟩ = chunkItems fuel s := by
  intro fuel
  induction fuel with
  | zero => intro s; rfl
  | succ fuel ih =>
    intro s
    unfold chunkItemsBuf chunkItems
    rw [chunkNextBuf_bare]
    generalize chunkNext s = q
    obtain ⟨o, s'⟩ := q
    cases o with
    | none => rfl
    | some i =>
      cases i with
      | err => rfl
      | ok p => simp only; rw [ih]

theorem chunkNext_nil (plan : List RFault) :
    (chunkNext ⟨[], plan⟩).1 = none ∨ ((chunkNext ⟨[], plan⟩).1 = some .err ∧ RFault.fail ∈ plan) := by
  have h := chunkNextBuf_nil ⟨0, [], ⟨[], plan⟩⟩ rfl
  rwa [chunkNextBuf_bare] at h

theorem chunkNext_cons (p : Bytes) (ps : List Bytes) (plan : List RFault) (hp : p.length < 2^64) :
    (∃ plan', chunkNext ⟨frames (p :: ps), plan⟩ = (some (.ok p), ⟨frames ps, plan'⟩) ∧ plan' <:+ plan) ∨
    ((chunkNext ⟨frames (p :: ps), plan⟩).1 = some .err ∧ RFault.fail ∈ plan) := by
  have h := chunkNextBuf_cons p ps ⟨0, [], ⟨frames (p :: ps), plan⟩⟩ rfl hp
  rw [chunkNextBuf_bare] at h
  generalize chunkNext _ = q at h ⊢
  obtain ⟨o, rest, plan'⟩ := q
  refine h.imp (fun ⟨r', e, hs, suf⟩ => ?_) id
  obtain ⟨rfl, rfl⟩ := Prod.mk.inj e
  exact ⟨plan', congrArg (fun x => (_, RStore.mk x plan')) hs, suf⟩

end BV
