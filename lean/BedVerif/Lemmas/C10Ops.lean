import BedVerif.Lemmas.C10Basic
/-!
What the parts of `Merger.next` compute: `pull`, `popBest`, the priming loop (as the relation `Reach`) and
the pop step (as the relation `PopCase`).
-/
namespace BV.C10
variable {ε α : Type}

theorem pull_some {cs cs' : List (List (Item ε α))} {i : Nat} {x : Item ε α}
    (h : pull cs i = (some x, cs')) : ∃ xs, cs[i]? = some (x :: xs) ∧ cs' = cs.set i xs := by
  unfold pull at h
  split at h
  · next y ys hy => cases h; exact ⟨ys, hy, rfl⟩
  · cases h

theorem pull_none {cs cs' : List (List (Item ε α))} {i : Nat}
    (h : pull cs i = (none, cs')) : cs' = cs ∧ ∀ c, cs[i]? = some c → c = [] := by
  unfold pull at h
  split at h
  · cases h
  · next hno =>
    cases h
    refine ⟨rfl, fun c hc => ?_⟩
    cases c with
    | nil => rfl
    | cons y ys => exact absurd hc (hno y ys)

theorem popBest_eq_none {cmp : α → α → Ordering} {h : List (α × Nat)} : popBest cmp h = none ↔ h = [] := by
  fun_cases popBest cmp h <;> simp [*]

theorem popBest_perm {cmp : α → α → Ordering} {h : List (α × Nat)} {b : α × Nat} {rest : List (α × Nat)}
    (hp : popBest cmp h = some (b, rest)) : h.Perm (b :: rest) := by
  fun_induction popBest cmp h generalizing b rest with
  | case1 => cases hp
  | case2 x xs hn => cases hp; rw [popBest_eq_none.mp hn]
  | case3 x xs b' rest' hs hb ih => cases hp; exact (ih hs).cons x
  | case4 x xs b' rest' hs hb ih => cases hp; exact ((ih hs).cons x).trans (.swap _ _ _)

theorem popBest_mem {cmp : α → α → Ordering} {h : List (α × Nat)} {b : α × Nat} {rest : List (α × Nat)}
    (hp : popBest cmp h = some (b, rest)) {p : α × Nat} : p ∈ h ↔ p = b ∨ p ∈ rest :=
  (popBest_perm hp).mem_iff.trans List.mem_cons

theorem better_true_le {cmp : α → α → Ordering} {x y : α × Nat} (h : better cmp x y = true) : le cmp x.1 y.1 := by
  unfold better at h
  intro hgt
  rw [hgt] at h
  cases h

theorem better_false_le {cmp : α → α → Ordering} (hc : TotalPreorder cmp)
    {x y : α × Nat} (h : better cmp x y = false) : le cmp y.1 x.1 := by
  unfold better at h
  intro hgt
  rw [hc.swap, hgt] at h
  cases h

theorem popBest_min {cmp : α → α → Ordering} (hc : TotalPreorder cmp)
    {h : List (α × Nat)} {b : α × Nat} {rest : List (α × Nat)}
    (hp : popBest cmp h = some (b, rest)) : ∀ x ∈ h, le cmp b.1 x.1 := by
  fun_induction popBest cmp h generalizing b rest with
  | case1 => cases hp
  | case2 x xs hn =>
    cases hp
    rw [popBest_eq_none.mp hn]
    exact List.forall_mem_singleton.mpr (hc.refl _)
  | case3 x xs b' rest' hs hb ih =>
    cases hp
    exact List.forall_mem_cons.mpr ⟨hc.refl _, fun y hy => hc.trans _ _ _ (better_true_le hb) (ih hs y hy)⟩
  | case4 x xs b' rest' hs hb ih =>
    cases hp
    exact List.forall_mem_cons.mpr ⟨better_false_le hc (Bool.not_eq_true _ ▸ hb), ih hs⟩

/-- the part of `next` after priming -/
def popStep (cmp : α → α → Ordering) (m : Merger ε α) : Option (Item ε α) × Merger ε α :=
  match popBest cmp m.heap with
  | none => (none, m)
  | some ((v, idx), rest) =>
    match pull m.chunks idx with
    | (some (.ok a), cs) => (some (.ok v), { m with heap := (a, idx) :: rest, chunks := cs })
    | (some (.err e), cs) => (some (.err e), { m with heap := rest, chunks := cs })
    | (none, cs) => (some (.ok v), { m with heap := rest, chunks := cs })

/-- the state `next` pops from, and the error that stopped the priming -/
def primed (m : Merger ε α) : Merger ε α × Option ε :=
  if m.initiated then (m, none) else prime m (m.chunks.length + 1) 0

theorem next_eq (cmp : α → α → Ordering) (m : Merger ε α) :
    m.next cmp = match (primed m).2 with
      | some e => (some (.err e), (primed m).1)
      | none => popStep cmp (primed m).1 := rfl

inductive PopCase (cmp : α → α → Ordering) (m : Merger ε α) : Option (Item ε α) → Merger ε α → Prop
  | ended : m.heap = [] → PopCase cmp m none m
  | refill (v idx rest a xs) : popBest cmp m.heap = some ((v, idx), rest) → m.chunks[idx]? = some (.ok a :: xs) →
      PopCase cmp m (some (.ok v)) { m with heap := (a, idx) :: rest, chunks := m.chunks.set idx xs }
  | failed (v idx rest e xs) : popBest cmp m.heap = some ((v, idx), rest) → m.chunks[idx]? = some (.err e :: xs) →
      PopCase cmp m (some (.err e)) { m with heap := rest, chunks := m.chunks.set idx xs }
  | dry (v idx rest) : popBest cmp m.heap = some ((v, idx), rest) → (∀ c, m.chunks[idx]? = some c → c = []) →
      PopCase cmp m (some (.ok v)) { m with heap := rest }

theorem popStep_cases (cmp : α → α → Ordering) (m : Merger ε α) :
    PopCase cmp m (popStep cmp m).1 (popStep cmp m).2 := by
  unfold popStep
  split
  · next hn => exact .ended (popBest_eq_none.mp hn)
  · next v idx rest hp =>
    split
    · next a cs hpl =>
      obtain ⟨xs, hx, rfl⟩ := pull_some hpl
      exact .refill v idx rest a xs hp hx
    · next e cs hpl =>
      obtain ⟨xs, hx, rfl⟩ := pull_some hpl
      exact .failed v idx rest e xs hp hx
    · next cs hpl =>
      obtain ⟨rfl, hx⟩ := pull_none hpl
      exact .dry v idx rest hp hx

/-- `Reach i m k m'`: the priming loop gets from index `i` in state `m` to index `k` in state `m'`
by pulling ok items only -/
inductive Reach : Nat → Merger ε α → Nat → Merger ε α → Prop
  | refl (i m) : Reach i m i m
  | push (i m a xs k m') : i < m.chunks.length → m.chunks[i]? = some (.ok a :: xs) →
      Reach (i+1) { m with heap := (a, i) :: m.heap, chunks := m.chunks.set i xs } k m' → Reach i m k m'
  | skip (i m k m') : i < m.chunks.length → m.chunks[i]? = some [] → Reach (i+1) m k m' → Reach i m k m'

theorem Reach.length_eq {i k : Nat} {m m' : Merger ε α} (h : Reach i m k m') :
    m'.chunks.length = m.chunks.length := by
  induction h with
  | refl => rfl
  | push i m a xs k m' _ _ _ ih => simpa using ih
  | skip i m k m' _ _ _ ih => exact ih

theorem prime_spec {m m' : Merger ε α} {fuel i : Nat} {r : Option ε} (hf : m.chunks.length < fuel + i)
    (h : prime m fuel i = (m', r)) :
    ∃ k m'', Reach i m k m'' ∧
      (r = none → m' = { m'' with initiated := true } ∧ m''.chunks.length ≤ k) ∧
      (∀ e, r = some e → ∃ xs, m''.chunks[k]? = some (.err e :: xs) ∧ m' = { m'' with chunks := m''.chunks.set k xs }) := by
  fun_induction prime m fuel i with
  | case1 m i =>
    cases h
    exact ⟨i, m, .refl i m, fun _ => ⟨rfl, by omega⟩, nofun⟩
  | case2 m fuel i hlt a cs hpl ih =>
    obtain ⟨xs, hx, rfl⟩ := pull_some hpl
    obtain ⟨k, m'', hr, h1, h2⟩ := ih (by rw [List.length_set]; exact Nat.add_right_comm fuel 1 i ▸ hf) h
    exact ⟨k, m'', .push i m a xs k m'' hlt hx hr, h1, h2⟩
  | case3 m fuel i hlt e cs hpl =>
    obtain ⟨xs, hx, rfl⟩ := pull_some hpl
    cases h
    exact ⟨i, m, .refl i m, nofun, fun e' he => by cases he; exact ⟨xs, hx, rfl⟩⟩
  | case4 m fuel i hlt cs hpl ih =>
    obtain ⟨rfl, hx⟩ := pull_none hpl
    have hx' : m.chunks[i]? = some [] := by
      rw [List.getElem?_eq_getElem hlt, hx _ (List.getElem?_eq_getElem hlt)]
    obtain ⟨k, m'', hr, h1, h2⟩ := ih (Nat.add_right_comm fuel 1 i ▸ hf) h
    exact ⟨k, m'', .skip i m k m'' hlt hx' hr, h1, h2⟩
  | case5 m fuel i hge =>
    cases h
    exact ⟨i, m, .refl i m, fun _ => ⟨rfl, Nat.le_of_not_lt hge⟩, nofun⟩

end BV.C10
