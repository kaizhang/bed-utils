import BedVerif.Lemmas.RecBasic
import BedVerif.Lemmas.ListReflect
/-!
`MergeBed` (the grouping of sorted records) and the vocabulary of C07. The loop invariant `Inv` gives
`GoodGroups` (`groups_good`); everything else about the groups and the merged ranges of a sorted input
follows from `GoodGroups` and sortedness, through the relation `GroupLt` between an earlier and a later
group (`groupLt_pairwise`).
-/
namespace BV

def SortedRecs (xs : List Rec) : Prop := xs.Pairwise (fun a b => Rec.compare a b ≠ .gt)

def runMaxEnd (g : List Rec) : Nat := listMax (g.map (·.stop))

def coveredBy (xs : List Rec) (c : Bytes) (p : Nat) : Prop := ∃ r ∈ xs, r.chrom = c ∧ r.mem p

/-- the groups handed to the merge closure -/
structure GoodGroups (xs : List Rec) (gs : List (List Rec)) : Prop where
  /-- every input record in exactly one group, in input order -/
  flatten : gs.flatten = xs
  nonempty : ∀ g ∈ gs, g ≠ []
  oneChrom : ∀ g ∈ gs, ∀ a ∈ g, ∀ b ∈ g, a.chrom = b.chrom
  /-- chained: each non-first record starts at or before the largest end seen so far in its group
  (overlap or adjacency) -/
  chained : ∀ g ∈ gs, ∀ i (h : i + 1 < g.length), g[i+1].start ≤ runMaxEnd (g.take (i+1))
  /-- maximal: no record of the next group overlaps or abuts any record of this group -/
  maximal : ∀ i (h : i + 1 < gs.length), ∀ a ∈ gs[i], ∀ b ∈ gs[i+1], a.chrom ≠ b.chrom ∨ a.stop < b.start

theorem listMax_eq (l : List Nat) : listMax l = l.max?.getD 0 := by
  rw [listMax, List.foldl_max, Nat.zero_max]

theorem le_listMax {l : List Nat} {x : Nat} (h : x ∈ l) : x ≤ listMax l :=
  listMax_eq l ▸ List.le_max?_getD_of_mem h

theorem listMax_mem {l : List Nat} (h : l ≠ []) : listMax l ∈ l := by
  obtain ⟨m, hm⟩ := Option.isSome_iff_exists.mp (List.isSome_max?_of_ne_nil h)
  rw [listMax_eq, hm]
  exact List.max?_mem hm

theorem listMax_append_singleton (l : List Nat) (x : Nat) : listMax (l ++ [x]) = max (listMax l) x := by
  simp [listMax, List.foldl_append]

theorem listMin_cons_of_le (y : Nat) (ys : List Nat) (h : ∀ x ∈ ys, y ≤ x) : listMin (y :: ys) = y := by
  have : (y :: ys).min? = some y :=
    List.min?_eq_some_iff.mpr ⟨List.mem_cons_self, fun b hb => (List.mem_cons.mp hb).elim (· ▸ Nat.le_refl _) (h b)⟩
  rw [listMin, List.foldl_min, this, List.headD_cons, Option.getD_some, Nat.min_self]

/-- one step of `MergeBed::next` on an open group: close it, panic, or absorb the record -/
theorem groupsAux_cons {β : Type} (view : β → Rec) (a : Acc β) (r : β) (rest : List β) (out : List (List β)) :
    groupsAux view (some a) (r :: rest) out =
      if a.chrom ≠ (view r).chrom ∨ a.e < (view r).start then
        groupsAux view (some ⟨(view r).chrom, (view r).start, (view r).stop, [r]⟩) rest (a.recs.reverse :: out)
      else if (view r).start < a.s then .panic
      else groupsAux view (some ⟨a.chrom, a.s, max a.e (view r).stop, r :: a.recs⟩) rest out := by
  rw [groupsAux]
  simp only [Bool.or_eq_true, bne_iff_ne, decide_eq_true_eq, gt_iff_lt]
  by_cases h : a.e < (view r).stop
  · rw [if_pos h, Nat.max_eq_right (Nat.le_of_lt h)]
  · rw [if_neg h, Nat.max_eq_left (Nat.le_of_not_lt h)]

def accCur {β : Type} : Option (Acc β) → List β
  | none => []
  | some a => a.recs.reverse

theorem groupsAux_flatten {β : Type} (view : β → Rec) :
    ∀ (rest : List β) (acc : Option (Acc β)) (out gs : List (List β)),
    groupsAux view acc rest out = .ok gs → gs.flatten = out.reverse.flatten ++ accCur acc ++ rest
  | [], none, out, gs, h => by cases h; simp [accCur]
  | [], some a, out, gs, h => by cases h; simp [accCur]
  | r :: rest, none, out, gs, h => by simpa [accCur] using groupsAux_flatten view rest _ out gs h
  | r :: rest, some a, out, gs, h => by
    rw [groupsAux_cons] at h
    split at h
    · simpa [accCur] using groupsAux_flatten view rest _ _ gs h
    · split at h
      · cases h
      · simpa [accCur] using groupsAux_flatten view rest _ _ gs h

theorem groups_flatten_any (xs : List Rec) (gs : List (List Rec)) (hg : groups xs = .ok gs) : gs.flatten = xs := by
  simpa [accCur] using groupsAux_flatten id xs none [] gs hg

/-- grouping commutes with the view: the groups of `xs` under `view` are, record for record, the groups
of the viewed list (so what is proved of `groups` holds of `groupsOf view`) -/
theorem groupsAux_map {β : Type} (view : β → Rec) :
    ∀ (xs : List β) (acc : Option (Acc β)) (out : List (List β)),
    groupsAux id (acc.map fun a => ⟨a.chrom, a.s, a.e, a.recs.map view⟩) (xs.map view) (out.map (List.map view)) =
      match groupsAux view acc xs out with
      | .ok gs => .ok (gs.map (List.map view))
      | .panic => .panic
  | [], none, out => by
    simp only [Option.map_none, List.map_nil, groupsAux, List.map_reverse]
  | [], some a, out => by
    simp only [Option.map_some, List.map_nil, groupsAux, List.map_reverse, List.map_cons]
  | r :: xs, none, out => by
    rw [List.map_cons, Option.map_none, groupsAux, groupsAux]
    exact groupsAux_map view xs (some ⟨_, _, _, [r]⟩) out
  | r :: xs, some a, out => by
    rw [List.map_cons, Option.map_some, groupsAux_cons, groupsAux_cons]
    simp only [id]
    by_cases h1 : a.chrom ≠ (view r).chrom ∨ a.e < (view r).start
    · rw [if_pos h1, if_pos h1]
      have := groupsAux_map view xs (some ⟨(view r).chrom, (view r).start, (view r).stop, [r]⟩) (a.recs.reverse :: out)
      rwa [List.map_cons, List.map_reverse] at this
    · rw [if_neg h1, if_neg h1]
      by_cases h2 : (view r).start < a.s
      · rw [if_pos h2, if_pos h2]
      · rw [if_neg h2, if_neg h2]
        exact groupsAux_map view xs (some ⟨a.chrom, a.s, max a.e (view r).stop, r :: a.recs⟩) out

theorem groupsOf_map {β : Type} (view : β → Rec) (xs : List β) :
    groups (xs.map view) = match groupsOf view xs with
      | .ok gs => .ok (gs.map (List.map view))
      | .panic => .panic :=
  groupsAux_map view xs none []

def sepR (a b : Rec) : Prop := a.chrom ≠ b.chrom ∨ a.stop < b.start

def Chained (g : List Rec) : Prop :=
  ∀ i (h : i + 1 < g.length), g[i+1].start ≤ runMaxEnd (g.take (i+1))

def GoodGroup (g : List Rec) : Prop :=
  g ≠ [] ∧ (∀ a ∈ g, ∀ b ∈ g, a.chrom = b.chrom) ∧ Chained g

def SepRev : List (List Rec) → Prop
  | [] => True
  | [_] => True
  | g2 :: g1 :: rest => (∀ a ∈ g1, ∀ b ∈ g2, sepR a b) ∧ SepRev (g1 :: rest)

structure Inv (a : Acc Rec) (rest : List Rec) (out : List (List Rec)) : Prop where
  first : ∃ f ∈ a.recs, f.start = a.s
  sle : ∀ b ∈ a.recs, a.s ≤ b.start
  chr : ∀ b ∈ a.recs, b.chrom = a.chrom
  e : a.e = runMaxEnd a.recs.reverse
  chain : Chained a.recs.reverse
  sorted : SortedRecs (a.recs.reverse ++ rest)
  outGood : ∀ g ∈ out, GoodGroup g
  sep : SepRev out
  prev : ∀ g ∈ out.head?, ∀ x ∈ g, x.chrom ≠ a.chrom ∨ x.stop < a.s

theorem runMaxEnd_append_singleton (g : List Rec) (x : Rec) :
    runMaxEnd (g ++ [x]) = max (runMaxEnd g) x.stop := by
  simp [runMaxEnd, listMax_append_singleton]

theorem stop_le_runMaxEnd {g : List Rec} {x : Rec} (h : x ∈ g) : x.stop ≤ runMaxEnd g :=
  le_listMax (List.mem_map_of_mem h)

theorem Chained_append {g : List Rec} {x : Rec} (hg : Chained g) (hx : x.start ≤ runMaxEnd g) :
    Chained (g ++ [x]) := by
  intro i h
  by_cases hi : i + 1 < g.length
  · rw [List.getElem_append_left hi, List.take_append_of_le_length (Nat.le_of_lt hi)]
    exact hg i hi
  · have hlen : i + 1 = g.length := by
      simp only [List.length_append, List.length_cons, List.length_nil] at h; omega
    rw [List.getElem_append_right (by omega)]
    simp only [hlen, Nat.sub_self, List.getElem_cons_zero, List.take_left']
    exact hx

theorem SepRev.getElem : ∀ {L : List (List Rec)}, SepRev L →
    ∀ i (h : i + 1 < L.length), ∀ a ∈ L[i + 1], ∀ b ∈ L[i]'(Nat.lt_of_succ_lt h), sepR a b
  | _ :: _ :: _, h, 0, _ => h.1
  | _ :: _ :: _, h, i + 1, hi => SepRev.getElem h.2 i (Nat.lt_of_succ_lt_succ hi)

theorem Inv.goodCur {a : Acc Rec} {rest out} (h : Inv a rest out) : GoodGroup a.recs.reverse := by
  refine ⟨?_, ?_, h.chain⟩
  · obtain ⟨f, hf, _⟩ := h.first
    exact List.ne_nil_of_mem (List.mem_reverse.mpr hf)
  · intro x hx y hy
    rw [h.chr x (List.mem_reverse.mp hx), h.chr y (List.mem_reverse.mp hy)]

theorem Inv.sepCur {a : Acc Rec} {rest out} (h : Inv a rest out) : SepRev (a.recs.reverse :: out) := by
  cases out with
  | nil => trivial
  | cons g1 tl =>
    refine ⟨?_, h.sep⟩
    intro x hx b hb
    have hb' := List.mem_reverse.mp hb
    rcases h.prev g1 rfl x hx with h1 | h1
    · left; rw [h.chr b hb']; exact h1
    · right; exact Nat.lt_of_lt_of_le h1 (h.sle b hb')

theorem Inv.single {r : Rec} {rest : List Rec} {out : List (List Rec)} (hs : SortedRecs (r :: rest))
    (hgood : ∀ g ∈ out, GoodGroup g) (hsep : SepRev out)
    (hprev : ∀ g ∈ out.head?, ∀ x ∈ g, x.chrom ≠ r.chrom ∨ x.stop < r.start) :
    Inv ⟨r.chrom, r.start, r.stop, [r]⟩ rest out where
  first := ⟨r, List.mem_singleton.mpr rfl, rfl⟩
  sle := by intro b hb; rw [List.mem_singleton.mp hb]; exact Nat.le_refl _
  chr := by intro b hb; rw [List.mem_singleton.mp hb]
  e := by simp [runMaxEnd, listMax]
  chain := by intro i hi; simp at hi
  sorted := hs
  outGood := hgood
  sep := hsep
  prev := hprev

theorem Inv.close {a : Acc Rec} {r : Rec} {rest out} (h : Inv a (r :: rest) out)
    (hc : a.chrom ≠ r.chrom ∨ a.e < r.start) :
    Inv ⟨r.chrom, r.start, r.stop, [r]⟩ rest (a.recs.reverse :: out) := by
  refine Inv.single (h.sorted.sublist (List.sublist_append_right _ _)) ?_ h.sepCur ?_
  · intro g hg
    rcases List.mem_cons.mp hg with rfl | h1
    · exact h.goodCur
    · exact h.outGood g h1
  · rintro g ⟨⟩ x hx
    have hx' := List.mem_reverse.mp hx
    rw [h.chr x hx']
    exact hc.imp_right (Nat.lt_of_le_of_lt (h.e ▸ stop_le_runMaxEnd hx))

theorem Inv.start_ge {a : Acc Rec} {r : Rec} {rest out} (h : Inv a (r :: rest) out)
    (hc : a.chrom = r.chrom) : a.s ≤ r.start := by
  obtain ⟨f, hf, hfs⟩ := h.first
  have := (List.pairwise_append.mp h.sorted).2.2 f (List.mem_reverse.mpr hf) r List.mem_cons_self
  rw [← hfs]
  exact compare_start this (by rw [h.chr f hf, hc])

theorem Inv.extend {a : Acc Rec} {r : Rec} {rest out} (h : Inv a (r :: rest) out)
    (hc : a.chrom = r.chrom) (hle : r.start ≤ a.e) :
    Inv ⟨a.chrom, a.s, max a.e r.stop, r :: a.recs⟩ rest out where
  first := by
    obtain ⟨f, hf, hfs⟩ := h.first
    exact ⟨f, List.mem_cons_of_mem _ hf, hfs⟩
  sle := by
    intro b hb
    rcases List.mem_cons.mp hb with rfl | h1
    · exact h.start_ge hc
    · exact h.sle b h1
  chr := by
    intro b hb
    rcases List.mem_cons.mp hb with rfl | h1
    · exact hc.symm
    · exact h.chr b h1
  e := by rw [List.reverse_cons, runMaxEnd_append_singleton, ← h.e]
  chain := by
    rw [List.reverse_cons]
    exact Chained_append h.chain (h.e ▸ hle)
  sorted := by
    have := h.sorted
    rwa [List.reverse_cons, List.append_assoc]
  outGood := h.outGood
  sep := h.sep
  prev := h.prev

theorem groupsAux_inv : ∀ (rest : List Rec) (a : Acc Rec) (out : List (List Rec)), Inv a rest out →
    ∃ L, groupsAux id (some a) rest out = .ok L.reverse ∧ (∀ g ∈ L, GoodGroup g) ∧ SepRev L
  | [], a, out, h => by
    refine ⟨a.recs.reverse :: out, rfl, ?_, h.sepCur⟩
    intro g hg
    rcases List.mem_cons.mp hg with rfl | h1
    · exact h.goodCur
    · exact h.outGood g h1
  | r :: rest, a, out, h => by
    rw [groupsAux_cons]
    simp only [id]
    split
    · rename_i hc
      exact groupsAux_inv rest _ _ (h.close hc)
    · rename_i hc
      rw [not_or, Decidable.not_not, Nat.not_lt] at hc
      -- sorted input: the panic branch is not taken
      rw [if_neg (Nat.not_lt.mpr (h.start_ge hc.1))]
      exact groupsAux_inv rest _ _ (h.extend hc.1 hc.2)

theorem groups_good (xs : List Rec) (hs : SortedRecs xs) :
    ∃ gs, groups xs = .ok gs ∧ GoodGroups xs gs := by
  cases xs with
  | nil => exact ⟨[], rfl, rfl, nofun, nofun, nofun, nofun⟩
  | cons r rest =>
    obtain ⟨L, hL, hgood, hsep⟩ := groupsAux_inv rest _ [] (Inv.single hs nofun trivial nofun)
    have hg : groups (r :: rest) = .ok L.reverse := hL
    have good : ∀ g ∈ L.reverse, GoodGroup g := fun g hg => hgood g (List.mem_reverse.mp hg)
    exact ⟨L.reverse, hg, groups_flatten_any _ _ hg, fun g hg => (good g hg).1, fun g hg => (good g hg).2.1,
      fun g hg => (good g hg).2.2, adjacent_reverse (R := fun g h => ∀ a ∈ g, ∀ b ∈ h, sepR a b) hsep.getElem⟩

theorem good_of_ok {xs : List Rec} (hs : SortedRecs xs) {gs : List (List Rec)} (hg : groups xs = .ok gs) :
    GoodGroups xs gs := by
  obtain ⟨gs', hg', hG⟩ := groups_good xs hs
  cases hg.symm.trans hg'
  exact hG

theorem GoodGroups.good {xs : List Rec} {gs : List (List Rec)} (hG : GoodGroups xs gs) {g : List Rec}
    (hg : g ∈ gs) : GoodGroup g := ⟨hG.nonempty g hg, hG.oneChrom g hg, hG.chained g hg⟩

theorem GoodGroups.sorted {xs : List Rec} {gs : List (List Rec)} (hG : GoodGroups xs gs) (hs : SortedRecs xs)
    {g : List Rec} (hg : g ∈ gs) : SortedRecs g :=
  (List.pairwise_flatten.mp (hG.flatten ▸ hs)).1 g hg

def GroupLt (g h : List Rec) : Prop := ∀ a ∈ g, ∀ b ∈ h, Rec.compare a b ≠ .gt ∧ sepR a b

/-- `maximal` speaks of neighbouring groups only; in a sorted input it extends to any two groups,
because a record of the group in between sorts between the two -/
theorem groupLt_pairwise {xs : List Rec} {gs : List (List Rec)} (hs : SortedRecs xs) (hG : GoodGroups xs gs) :
    gs.Pairwise GroupLt := by
  have hcross := List.pairwise_iff_getElem.mp (List.pairwise_flatten.mp (hG.flatten ▸ hs)).2
  refine List.pairwise_iff_getElem.mpr fun i j hi hj hij a ha b hb => ⟨hcross i j hi hj hij a ha b hb, ?_⟩
  by_cases hji : j = i + 1
  · subst hji; exact hG.maximal i hj a ha b hb
  · have hi1 : i + 1 < gs.length := by omega
    obtain ⟨b', hb'⟩ := List.exists_mem_of_ne_nil _ (hG.nonempty gs[i+1] (List.getElem_mem hi1))
    by_cases hc : a.chrom = b.chrom
    · right
      have h1 := hcross i (i+1) hi hi1 (by omega) a ha b' hb'
      have h2 := hcross (i+1) j hi1 hj (by omega) b' hb' b hb
      have hab' : a.chrom = b'.chrom := cmpBytes_antisymm (compare_chrom h1) (hc ▸ compare_chrom h2)
      have hle : b'.start ≤ b.start := compare_start h2 (by rw [← hab', hc])
      have := (hG.maximal i hi1 a ha b' hb').resolve_left (· hab')
      omega
    · left; exact hc

theorem head_start_le {h : Rec} {t : List Rec} (hs : SortedRecs (h :: t))
    (hc : ∀ a ∈ h :: t, ∀ b ∈ h :: t, a.chrom = b.chrom) : ∀ a ∈ h :: t, h.start ≤ a.start := by
  intro a ha
  rcases List.mem_cons.mp ha with rfl | h1
  · exact Nat.le_refl _
  · exact compare_start ((List.pairwise_cons.mp hs).1 a h1) (hc h List.mem_cons_self a ha)

theorem mergeGroup_cons {h : Rec} {t : List Rec} (hs : SortedRecs (h :: t))
    (hc : ∀ a ∈ h :: t, ∀ b ∈ h :: t, a.chrom = b.chrom) :
    ∃ m ∈ h :: t, mergeGroup (h :: t) = ⟨h.chrom, h.start, m.stop⟩ := by
  obtain ⟨m, hm, hst⟩ := List.mem_map.mp (listMax_mem (l := (h :: t).map (·.stop)) (List.cons_ne_nil _ _))
  refine ⟨m, hm, ?_⟩
  rw [mergeGroup, List.headD_cons, hst, List.map_cons, listMin_cons_of_le]
  intro x hx
  obtain ⟨a, ha, rfl⟩ := List.mem_map.mp hx
  exact head_start_le hs hc a (List.mem_cons_of_mem _ ha)

theorem mergeGroup_stop (g : List Rec) : (mergeGroup g).stop = runMaxEnd g := rfl

theorem mergeGroup_facts {g : List Rec} (hne : g ≠ []) (hs : SortedRecs g)
    (hc : ∀ a ∈ g, ∀ b ∈ g, a.chrom = b.chrom) :
    (mergeGroup g).start = (g.headD default).start ∧
      (∀ a ∈ g, (mergeGroup g).start ≤ a.start ∧ a.stop ≤ (mergeGroup g).stop) ∧
      (∃ a ∈ g, a.stop = (mergeGroup g).stop) := by
  obtain ⟨h, t, rfl⟩ := List.exists_cons_of_ne_nil hne
  obtain ⟨m, hm, e⟩ := mergeGroup_cons hs hc
  refine ⟨by rw [e]; rfl, fun a ha => ⟨by rw [e]; exact head_start_le hs hc a ha, stop_le_runMaxEnd ha⟩,
    m, hm, by rw [e]⟩

theorem mergeGroup_lt {g h : List Rec} (hg : GoodGroup g) (hh : GoodGroup h) (sg : SortedRecs g)
    (sh : SortedRecs h) (hv : ∀ r ∈ g, r.start ≤ r.stop) (hlt : GroupLt g h) :
    Rec.compare (mergeGroup g) (mergeGroup h) ≠ .gt ∧ sepR (mergeGroup g) (mergeGroup h) := by
  obtain ⟨a, ta, rfl⟩ := List.exists_cons_of_ne_nil hg.1
  obtain ⟨b, tb, rfl⟩ := List.exists_cons_of_ne_nil hh.1
  obtain ⟨m, hm, eg⟩ := mergeGroup_cons sg hg.2.1
  obtain ⟨_, _, eh⟩ := mergeGroup_cons sh hh.2.1
  rw [eg, eh]
  have hab := hlt a List.mem_cons_self b List.mem_cons_self
  have hmb : a.chrom ≠ b.chrom ∨ m.stop < b.start :=
    hg.2.1 a List.mem_cons_self m hm ▸ (hlt m hm b List.mem_cons_self).2
  refine ⟨(Rec.compare_ne_gt_iff _ _).mpr ?_, hmb⟩
  rcases (Rec.compare_ne_gt_iff a b).mp hab.1 with hc | ⟨hc, _⟩
  · exact Or.inl hc
  · have := hv a List.mem_cons_self
    have := hab.2.resolve_left (· hc)
    exact Or.inr ⟨hc, Or.inl (by show a.start < b.start; omega)⟩

theorem merged_pairwise {xs : List Rec} (hs : SortedRecs xs) (hv : ∀ r ∈ xs, r.start ≤ r.stop)
    {gs : List (List Rec)} (hG : GoodGroups xs gs) :
    (gs.map mergeGroup).Pairwise (fun x y => Rec.compare x y ≠ .gt ∧ sepR x y) := by
  rw [List.pairwise_map]
  refine (groupLt_pairwise hs hG).imp_of_mem fun {g h} hg hh hlt => ?_
  exact mergeGroup_lt (hG.good hg) (hG.good hh) (hG.sorted hs hg) (hG.sorted hs hh)
    (fun r hr => hv r (hG.flatten ▸ List.mem_flatten.mpr ⟨g, hg, hr⟩)) hlt

theorem mergeSortedBed_ok {xs : List Rec} {gs : List (List Rec)} (hg : groups xs = .ok gs) :
    mergeSortedBed xs = .ok (gs.map mergeGroup) := by
  simp [mergeSortedBed, hg]

theorem cover_of_chained {g : List Rec} (hch : Chained g) :
    ∀ k, k ≤ g.length → ∀ p, (g.headD default).start ≤ p → p < runMaxEnd (g.take k) →
      ∃ r ∈ g.take k, r.mem p := by
  intro k
  induction k with
  | zero => intro _ p _ h; simp [runMaxEnd, listMax] at h
  | succ k ih =>
    intro hk p hp hlt
    have hk' : k < g.length := hk
    rw [List.take_succ_eq_append_getElem hk'] at hlt ⊢
    rw [runMaxEnd_append_singleton] at hlt
    by_cases hlt' : p < runMaxEnd (g.take k)
    · obtain ⟨r, hr, hm⟩ := ih (Nat.le_of_lt hk') p hp hlt'
      exact ⟨r, List.mem_append_left _ hr, hm⟩
    · refine ⟨g[k], List.mem_append_right _ (List.mem_singleton.mpr rfl), ?_, by omega⟩
      cases k with
      | zero =>
        cases g with
        | nil => simp at hk'
        | cons h t => simpa using hp
      | succ k' =>
        have := hch k' hk'
        omega

theorem merged_cover {xs : List Rec} (hs : SortedRecs xs)
    {gs : List (List Rec)} (hG : GoodGroups xs gs) (c : Bytes) (p : Nat) :
    coveredBy xs c p ↔ coveredBy (gs.map mergeGroup) c p := by
  have key : ∀ g ∈ gs, ∀ r ∈ g, r.chrom = (mergeGroup g).chrom := by
    intro g hg r hr
    obtain ⟨h, t, rfl⟩ := List.exists_cons_of_ne_nil (hG.nonempty g hg)
    exact hG.oneChrom _ hg r hr h List.mem_cons_self
  constructor
  · rintro ⟨r, hr, hc, hp⟩
    rw [← hG.flatten] at hr
    obtain ⟨g, hg, hrg⟩ := List.mem_flatten.mp hr
    have := (mergeGroup_facts (hG.nonempty _ hg) (hG.sorted hs hg) (hG.oneChrom _ hg)).2.1 r hrg
    exact ⟨mergeGroup g, List.mem_map_of_mem hg, key g hg r hrg ▸ hc,
      Nat.le_trans this.1 hp.1, Nat.lt_of_lt_of_le hp.2 this.2⟩
  · rintro ⟨o, ho, hc, hp⟩
    obtain ⟨g, hg, rfl⟩ := List.mem_map.mp ho
    have hst := (mergeGroup_facts (hG.nonempty _ hg) (hG.sorted hs hg) (hG.oneChrom _ hg)).1
    obtain ⟨r, hr, hm⟩ := cover_of_chained (hG.chained g hg) g.length (Nat.le_refl _) p (hst ▸ hp.1)
      (by rw [List.take_length]; exact hp.2)
    rw [List.take_length] at hr
    exact ⟨r, hG.flatten ▸ List.mem_flatten.mpr ⟨g, hg, hr⟩, (key g hg r hr).trans hc, hm⟩

theorem merged_ok {xs : List Rec} (hs : SortedRecs xs) (hv : ∀ r ∈ xs, r.start ≤ r.stop)
    {gs : List (List Rec)} (hG : GoodGroups xs gs) {out : List Rec} (ho : out = gs.map mergeGroup) :
    SortedRecs out ∧
      (∀ i (h : i + 1 < out.length), sepR (out[i]'(Nat.lt_of_succ_lt h)) out[i+1]) ∧
      (∀ c p, coveredBy xs c p ↔ coveredBy out c p) := by
  subst ho
  have hp := merged_pairwise hs hv hG
  exact ⟨hp.imp And.left, fun i h => (List.pairwise_iff_getElem.mp hp i (i + 1) _ h (Nat.lt_succ_self i)).2,
    merged_cover hs hG⟩

end BV
