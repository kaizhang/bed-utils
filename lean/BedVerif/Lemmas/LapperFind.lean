import BedVerif.Lemmas.BSearch
/-! `find` = `filter` on start-sorted lists: lower bound, `max_len` pruning, early `break`. -/
namespace BV
variable {α : Type}

def SortedStart (l : List (Iv α)) : Prop := l.Pairwise (fun a b => a.start ≤ b.start)

theorem SortedStart.prefixClosed {l : List (Iv α)} (hs : SortedStart l) (s : Nat) :
    PrefixClosed (fun iv => decide (iv.start < s)) l :=
  hs.imp fun hab hb => decide_eq_true (Nat.lt_of_le_of_lt hab (of_decide_eq_true hb))

theorem lowerBound_eq (s : Nat) (l : Array (Iv α)) (hs : SortedStart l.toList) :
    lowerBound s l = l.toList.countP (fun iv => iv.start < s) :=
  have hn := (hs.prefixClosed s).partPt
  lbLoop_eq hn _ _ _ (Nat.le_succ _) (Nat.zero_le _) ((Nat.zero_add _).symm ▸ hn.1) (Nat.le_of_eq (Nat.zero_add _))

theorem lowerBound_take (s : Nat) (l : Array (Iv α)) (hs : SortedStart l.toList) :
    ∀ iv ∈ l.toList.take (lowerBound s l), iv.start < s := by
  rw [lowerBound_eq _ _ hs]
  exact fun iv hiv => of_decide_eq_true (take_countP_all (hs.prefixClosed s) iv hiv)

theorem Iv.ov_eq_false_of_le_start {iv : Iv α} {s e : Nat} (h : e ≤ iv.start) : iv.ov s e = false := by
  rw [Iv.ov, decide_eq_false (Nat.not_lt.mpr h), Bool.false_and]

theorem Iv.ov_eq_false_of_stop_le {iv : Iv α} {s e : Nat} (h : iv.stop ≤ s) : iv.ov s e = false := by
  rw [Iv.ov, decide_eq_false (Nat.not_lt.mpr h), Bool.and_false]

theorem scan_eq_filter {l : List (Iv α)} (hs : SortedStart l) (s e : Nat) :
    scan l s e = l.filter (·.ov s e) := by
  induction l with
  | nil => rfl
  | cons iv rest ih =>
    have ⟨h1, h2⟩ := List.pairwise_cons.mp hs
    simp only [scan, List.filter_cons, ih h2]
    by_cases hov : iv.ov s e = true
    · simp only [if_pos hov]
    · simp only [if_neg hov]
      by_cases hbr : iv.start ≥ e
      · rw [if_pos hbr]
        exact (List.filter_eq_nil_iff.mpr fun a ha =>
          Bool.eq_false_iff.mp (Iv.ov_eq_false_of_le_start (Nat.le_trans hbr (h1 a ha)))).symm
      · rw [if_neg hbr]

/-- The scan may start at any `k` such that every interval before `k` starts more than `m` (a bound
on all lengths) before the query: none of those reaches it. -/
theorem scan_drop_eq_filter {l : List (Iv α)} (hs : SortedStart l) {m : Nat} (hm : ∀ iv ∈ l, iv.len ≤ m)
    {qs k : Nat} (hk : ∀ iv ∈ l.take k, iv.start < qs - m) (qe : Nat) :
    scan (l.drop k) qs qe = l.filter (·.ov qs qe) := by
  have h0 : (l.take k).filter (·.ov qs qe) = [] := by
    refine List.filter_eq_nil_iff.mpr fun iv hiv => Bool.eq_false_iff.mp (Iv.ov_eq_false_of_stop_le ?_)
    have h1 : iv.stop ≤ m + iv.start := Nat.sub_le_iff_le_add.mp (hm iv (List.mem_of_mem_take hiv))
    have h2 : m + iv.start < qs := Nat.add_comm .. ▸ Nat.add_lt_of_lt_sub (hk iv hiv)
    exact Nat.le_of_lt (Nat.lt_of_le_of_lt h1 h2)
  rw [scan_eq_filter (hs.sublist (List.drop_sublist _ _)), ← List.nil_append (List.filter _ (l.drop k)), ← h0,
    ← List.filter_append, List.take_append_drop]

theorem find_eq_filter (s : Lapper α)
    (hsorted : SortedStart s.intervals.toList)
    (hmax : ∀ iv ∈ s.intervals.toList, iv.len ≤ s.maxLen)
    (qs qe : Nat) :
    s.find qs qe = s.intervals.toList.filter (·.ov qs qe) :=
  scan_drop_eq_filter hsorted hmax (lowerBound_take _ _ hsorted) qe

end BV
