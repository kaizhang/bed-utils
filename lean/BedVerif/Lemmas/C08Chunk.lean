import BedVerif.Spec.Rec
import BedVerif.Lemmas.Sort
/-! C08: `chunkBy` (maximal runs of equal key) on a key-sorted list, generic in the key: it serves the
positions of the breakpoints here and the chromosomes in `FastBedgraph`; the per-position sums; order independence. -/
namespace BV.C08

section chunkBy
variable {β κ : Type} [DecidableEq κ] (key : β → κ)

theorem chunkBy_cons (x : β) (xs : List β) :
    chunkBy key (x :: xs) = match chunkBy key xs with
      | (k, g) :: rest => if key x = k then (k, x :: g) :: rest else (key x, [x]) :: (k, g) :: rest
      | [] => [(key x, [x])] := rfl

theorem chunkBy_flatMap (xs : List β) : (chunkBy key xs).flatMap (·.2) = xs := by
  induction xs with
  | nil => rfl
  | cons x xs ih =>
    rw [chunkBy_cons]
    split
    · rename_i k g rest h
      rw [h] at ih
      split <;> simp [← ih]
    · rename_i h
      rw [h] at ih
      simp [← ih]

theorem chunkBy_mem (xs : List β) : ∀ kg ∈ chunkBy key xs, kg.2 ≠ [] ∧ ∀ b ∈ kg.2, key b = kg.1 := by
  have single : ∀ (x : β) (kg : κ × List β), kg ∈ [(key x, [x])] → kg.2 ≠ [] ∧ ∀ b ∈ kg.2, key b = kg.1 := by
    intro x kg hkg
    rw [List.mem_singleton.mp hkg]
    exact ⟨List.cons_ne_nil _ _, fun b hb => by rw [List.mem_singleton.mp hb]⟩
  induction xs with
  | nil => intro kg h; cases h
  | cons x xs ih =>
    rw [chunkBy_cons]
    split
    · rename_i k g rest h
      rw [h] at ih
      split
      · rename_i hk
        intro kg hkg
        rcases List.mem_cons.mp hkg with rfl | hkg
        · refine ⟨List.cons_ne_nil _ _, fun b hb => ?_⟩
          rcases List.mem_cons.mp hb with rfl | hb
          · exact hk
          · exact (ih (k, g) List.mem_cons_self).2 b hb
        · exact ih kg (List.mem_cons_of_mem _ hkg)
      · intro kg hkg
        rcases List.mem_cons.mp hkg with hkg | hkg
        · exact single x kg (List.mem_singleton.mpr hkg)
        · exact ih kg hkg
    · exact single x

theorem chunkBy_key_mem (xs : List β) : ∀ kg ∈ chunkBy key xs, ∃ b ∈ xs, key b = kg.1 := by
  intro kg hkg
  obtain ⟨h1, h2⟩ := chunkBy_mem key xs kg hkg
  obtain ⟨b, hb⟩ := List.exists_mem_of_ne_nil _ h1
  refine ⟨b, ?_, h2 b hb⟩
  rw [← chunkBy_flatMap key xs]
  exact List.mem_flatMap.mpr ⟨kg, hkg, hb⟩

/-- on a list sorted by an antisymmetric relation on the keys, the keys of the chunks are sorted and
distinct: a key that came back after another one would lie between two occurrences of that one -/
theorem chunkBy_pairwise (le : κ → κ → Prop) (anti : ∀ a b, le a b → le b a → a = b) (xs : List β)
    (hs : xs.Pairwise (fun a b => le (key a) (key b))) :
    (chunkBy key xs).Pairwise (fun a b => le a.1 b.1 ∧ a.1 ≠ b.1) := by
  induction xs with
  | nil => exact List.Pairwise.nil
  | cons x xs ih =>
    have hp := List.pairwise_cons.mp hs
    have ih := ih hp.2
    have hx : ∀ kg ∈ chunkBy key xs, le (key x) kg.1 := fun kg hkg => by
      obtain ⟨b, hb, e⟩ := chunkBy_key_mem key xs kg hkg
      exact e ▸ hp.1 b hb
    rw [chunkBy_cons]
    split
    · rename_i k g rest h
      rw [h] at ih hx
      have ihp := List.pairwise_cons.mp ih
      split
      · exact List.pairwise_cons.mpr ⟨ihp.1, ihp.2⟩
      · rename_i hk
        refine List.pairwise_cons.mpr ⟨fun kg hkg => ⟨hx kg hkg, ?_⟩, ih⟩
        rcases List.mem_cons.mp hkg with rfl | hkg
        · exact hk
        · intro (e : key x = kg.1)
          exact hk (anti _ _ (hx _ List.mem_cons_self) (e ▸ (ihp.1 kg hkg).1))
    · exact List.pairwise_singleton _ _
end chunkBy

abbrev Pt := Nat × Int

/-- the `chunks` of `sweepGroup` -/
def chunkSums (pts : List Pt) : List Pt :=
  (chunkBy (fun (x : Nat × Int) => x.1) pts).map (fun kg => (kg.1, (kg.2.map (·.2)).sum))

def fsum (P : Nat → Bool) (l : List Pt) : Int := ((l.filter (fun x => P x.1)).map (·.2)).sum

theorem fsum_cons (P : Nat → Bool) (x : Pt) (l : List Pt) :
    fsum P (x :: l) = (if P x.1 then x.2 else 0) + fsum P l := by
  unfold fsum
  by_cases h : P x.1 = true <;> simp [h]
theorem fsum_eq_zero (P : Nat → Bool) (l : List Pt) (h : ∀ x ∈ l, P x.1 = false) : fsum P l = 0 := by
  unfold fsum
  rw [List.filter_eq_nil_iff.mpr (fun x hx => by rw [h x hx]; exact Bool.false_ne_true)]
  rfl

theorem sum_perm {l1 l2 : List Int} (h : l1.Perm l2) : l1.sum = l2.sum := by
  induction h with
  | nil => rfl
  | cons x _ ih => simp [ih]
  | swap x y l => simp only [List.sum_cons]; omega
  | trans _ _ ih1 ih2 => exact ih1.trans ih2

theorem fsum_perm (P : Nat → Bool) {l1 l2 : List Pt} (h : l1.Perm l2) : fsum P l1 = fsum P l2 :=
  sum_perm ((h.filter _).map _)

theorem fsum_events {α : Type} (st en : α → Nat) (w : α → Int) (l : List α) (hl : ∀ a ∈ l, st a ≤ en a) (p : Nat) :
    fsum (fun k => decide (k ≤ p)) (l.flatMap fun a => [(st a, w a), (en a, -w a)]) =
      ((l.filter fun a => decide (st a ≤ p ∧ p < en a)).map w).sum := by
  induction l with
  | nil => rfl
  | cons a t ih =>
    have ha := hl a List.mem_cons_self
    rw [List.flatMap_cons, List.cons_append, List.cons_append, List.nil_append, fsum_cons, fsum_cons, ih (fun x hx => hl x (List.mem_cons_of_mem _ hx)), List.filter_cons]
    simp only [decide_eq_true_eq]
    by_cases h1 : st a ≤ p
    · rcases Nat.lt_or_ge p (en a) with h2 | h2
      · rw [if_pos h1, if_neg (Nat.not_le_of_lt h2), if_pos ⟨h1, h2⟩, List.map_cons, List.sum_cons]; omega
      · rw [if_pos h1, if_pos h2, if_neg (fun h => Nat.not_le_of_lt h.2 h2)]; omega
    · rw [if_neg h1, if_neg (by omega), if_neg (fun h => h1 h.1)]; omega

theorem chunkSums_nil : chunkSums [] = [] := rfl

theorem chunkSums_cons (x : Pt) (xs : List Pt) :
    chunkSums (x :: xs) = match chunkSums xs with
      | (k, s) :: rest => if x.1 = k then (k, x.2 + s) :: rest else (x.1, x.2) :: (k, s) :: rest
      | [] => [(x.1, x.2)] := by
  unfold chunkSums
  rw [chunkBy_cons]
  cases chunkBy (fun (x : Nat × Int) => x.1) xs with
  | nil => simp
  | cons kg rest =>
    simp only [List.map_cons]
    split <;> simp

theorem chunkSums_fsum (P : Nat → Bool) (l : List Pt) : fsum P (chunkSums l) = fsum P l := by
  induction l with
  | nil => rfl
  | cons x xs ih =>
    rw [chunkSums_cons, fsum_cons, ← ih]
    cases chunkSums xs with
    | nil => rw [fsum_cons]
    | cons ks rest =>
      simp only
      split
      · rename_i hk
        rw [fsum_cons, fsum_cons, hk]
        simp only
        split <;> omega
      · rw [fsum_cons]

theorem chunkSums_key_mem (l : List Pt) : ∀ ks ∈ chunkSums l, ∃ x ∈ l, x.1 = ks.1 := by
  intro ks hks
  obtain ⟨kg, hkg, rfl⟩ := List.mem_map.mp hks
  exact chunkBy_key_mem _ l kg hkg

theorem mem_chunkSums_key (l : List Pt) : ∀ x ∈ l, ∃ s, (x.1, s) ∈ chunkSums l := by
  intro x hx
  rw [← chunkBy_flatMap (fun x : Pt => x.1) l] at hx
  obtain ⟨kg, hkg, hxg⟩ := List.mem_flatMap.mp hx
  refine ⟨(kg.2.map (·.2)).sum, List.mem_map.mpr ⟨kg, hkg, ?_⟩⟩
  rw [(chunkBy_mem _ l kg hkg).2 x hxg]

theorem chunkSums_strict (l : List Pt) (hs : l.Pairwise (fun a b => a.1 ≤ b.1)) :
    (chunkSums l).Pairwise (fun a b => a.1 < b.1) := by
  unfold chunkSums
  rw [List.pairwise_map]
  exact (chunkBy_pairwise _ (· ≤ ·) (fun _ _ => Nat.le_antisymm) l hs).imp
    (fun ⟨h1, h2⟩ => Nat.lt_of_le_of_ne h1 h2)

theorem fsum_eq_of_strict (cs : List Pt) (hs : cs.Pairwise (fun a b => a.1 < b.1)) :
    ∀ ks ∈ cs, fsum (fun k => decide (k = ks.1)) cs = ks.2 := by
  induction cs with
  | nil => intro ks h; cases h
  | cons c cs ih =>
    have hp := List.pairwise_cons.mp hs
    intro ks hks
    rw [fsum_cons]
    rcases List.mem_cons.mp hks with rfl | hr
    · rw [fsum_eq_zero _ cs (fun a ha => decide_eq_false (Nat.ne_of_gt (hp.1 a ha)))]
      simp
    · have hne : ¬ c.1 = ks.1 := Nat.ne_of_lt (hp.1 ks hr)
      simp [hne, ih hp.2 ks hr]

theorem strict_ext (l1 l2 : List Pt) (h1 : l1.Pairwise (fun a b => a.1 < b.1))
    (h2 : l2.Pairwise (fun a b => a.1 < b.1)) (hm : ∀ x, x ∈ l1 ↔ x ∈ l2) : l1 = l2 := by
  induction l1 generalizing l2 with
  | nil =>
    cases l2 with
    | nil => rfl
    | cons y ys => cases (hm y).mpr List.mem_cons_self
  | cons x xs ih =>
    cases l2 with
    | nil => cases (hm x).mp List.mem_cons_self
    | cons y ys =>
      have p1 := List.pairwise_cons.mp h1
      have p2 := List.pairwise_cons.mp h2
      have hxy : x = y := by
        rcases List.mem_cons.mp ((hm x).mp List.mem_cons_self) with e | hx
        · exact e
        · rcases List.mem_cons.mp ((hm y).mpr List.mem_cons_self) with e | hy
          · exact e.symm
          · exact absurd (p1.1 y hy) (Nat.lt_asymm (p2.1 x hx))
      subst hxy
      congr 1
      refine ih ys p1.2 p2.2 (fun z => ⟨fun hz => ?_, fun hz => ?_⟩)
      · rcases List.mem_cons.mp ((hm z).mp (List.mem_cons_of_mem _ hz)) with e | h
        · exact absurd (e ▸ p1.1 z hz) (Nat.lt_irrefl _)
        · exact h
      · rcases List.mem_cons.mp ((hm z).mpr (List.mem_cons_of_mem _ hz)) with e | h
        · exact absurd (e ▸ p2.1 z hz) (Nat.lt_irrefl _)
        · exact h

theorem chunkSums_perm (pts pts' : List Pt) (hp : pts'.Perm pts)
    (hs : pts.Pairwise (fun a b => a.1 ≤ b.1)) (hs' : pts'.Pairwise (fun a b => a.1 ≤ b.1)) :
    chunkSums pts' = chunkSums pts := by
  -- a chunk `(k, s)` of either list: `k` is a position of the points, `s` their sum at `k`
  have key : ∀ (l l' : List Pt), l'.Perm l → l.Pairwise (fun a b => a.1 ≤ b.1) →
      l'.Pairwise (fun a b => a.1 ≤ b.1) → ∀ x, x ∈ chunkSums l' → x ∈ chunkSums l := by
    intro l l' hperm hl hl' x hx
    obtain ⟨y, hy, e⟩ := chunkSums_key_mem l' x hx
    obtain ⟨s, hs2⟩ := mem_chunkSums_key l y (hperm.mem_iff.mp hy)
    have e1 := fsum_eq_of_strict _ (chunkSums_strict l' hl') x hx
    have e2 := fsum_eq_of_strict _ (chunkSums_strict l hl) _ hs2
    rw [chunkSums_fsum] at e1 e2
    rw [fsum_perm _ hperm, ← e] at e1
    have : x = (y.1, s) := Prod.ext e.symm (e1.symm.trans e2)
    rw [this]
    exact hs2
  exact strict_ext _ _ (chunkSums_strict _ hs') (chunkSums_strict _ hs)
    (fun x => ⟨key pts pts' hp hs hs' x, key pts' pts hp.symm hs' hs x⟩)

theorem sweepGroup_eq (chrom : Bytes) (pts : List Pt) :
    sweepGroup chrom pts = match chunkSums pts with
      | [] => .panic
      | (p0, s0) :: rest =>
        let st := rest.foldl (sweepStep chrom) ⟨p0, s0, ⟨chrom, p0, p0, s0⟩, []⟩
        .ok ((st.prev :: st.out).reverse) := rfl

end BV.C08
