import BedVerif.Lemmas.C19Sweep
/-! What holds of every state that an operation history over non-empty intervals reaches: C18 and the
single-structure part of C19 are its fields. -/
namespace BV
variable {α : Type}

/-- `s` has been reached by a history that supplied the non-empty intervals `R` -/
structure Lapper.Hist (s : Lapper α) (R : List (Iv α)) : Prop where
  inv : Inv s
  ne : ∀ iv ∈ s.intervals.toList, iv.start < iv.stop
  /-- `overlaps_merged` is only set when the content is canonical -/
  flag : s.merged = true → Canonical s.intervals.toList
  /-- merges never change the set of covered positions -/
  cov : ∀ p, covered s.intervals.toList p ↔ covered R p
  /-- a cached coverage is up to date -/
  cache : ∀ c, s.cov = some c → c = coveredCount R

namespace Lapper.Hist
variable {s : Lapper α} {R : List (Iv α)}

theorem weak (h : s.Hist R) : Weak s := fun iv hiv => Nat.le_of_lt (h.ne iv hiv)

theorem calcCov (h : s.Hist R) : s.calcCov = coveredCount R :=
  (calcCov_spec s h.inv.sortedStart h.ne).trans (coveredCount_congr h.cov)

theorem getCov (h : s.Hist R) : s.getCov = coveredCount R := by
  unfold Lapper.getCov
  cases hc : s.cov with
  | none => exact h.calcCov
  | some c => exact h.cache c hc

theorem new (l : List (Iv α)) (hne : ∀ iv ∈ l, iv.start < iv.stop) : (Lapper.new l).Hist l where
  inv := inv_new l
  ne := fun iv hiv => hne iv ((new_intervals_perm l).mem_iff.mp hiv)
  flag := fun h => nomatch h
  cov := covered_perm_iff (new_intervals_perm l)
  cache := fun _ h => nomatch h

theorem insert (h : s.Hist R) (e : Iv α) (he : e.start < e.stop) : (s.insert e).Hist (R ++ [e]) where
  inv := inv_insert s h.inv e
  ne := fun iv hiv => by
    rcases List.mem_cons.mp ((insert_intervals_perm s e).mem_iff.mp hiv) with rfl | h'
    · exact he
    · exact h.ne iv h'
  flag := fun hm => nomatch hm
  cov := fun p => by
    rw [covered_perm_iff (insert_intervals_perm s e), covered_cons_iff, covered_append, h.cov p, covered_cons_iff,
      or_iff_left (covered_nil p), or_comm]
  cache := fun _ hc => nomatch hc

theorem merge (h : s.Hist R) : s.mergeOverlaps.Hist R :=
  have hm := C18h.mergeList_canonical s.intervals.toList h.inv.sortedStart h.ne
  ⟨inv_merge s h.inv, hm.1.1, fun _ => hm.1, fun p => (hm.2 p).trans (h.cov p), h.cache⟩

theorem setCov (h : s.Hist R) : s.setCov.Hist R :=
  ⟨inv_setCov s h.inv, h.ne, h.flag, h.cov, fun _ hc => by cases hc; exact h.calcCov⟩

theorem run (l : List (Iv α)) (ops : List (Op α)) (h : NonEmptyIvs l ops) : (Lapper.run l ops).Hist (recordsOf l ops) :=
  Lapper.run_induction (motive := Lapper.Hist) l ops (new l fun iv hiv => h iv (List.mem_append_left _ hiv))
    (fun _ _ iv hiv g => g.insert iv (h iv (List.mem_append_right _ hiv))) (fun _ _ _ g => g.merge) (fun _ _ g => g.setCov)

end Lapper.Hist
end BV
