import BedVerif.Lemmas.LapperInv
import BedVerif.Spec.Lapper
/-!
The map level of C02 and C11. `groupPush` (inside `from_iter`) and `GMap.insert` are the same
operation on an association list, `upsert`; one invariant, `Holds`, is kept by it, and `Loaded` is
its instance for a map of Lapper trees.
-/
namespace BV

theorem foldl_hist {σ ι : Type} (I : σ → List ι → Prop) (f : σ → ι → σ)
    (h : ∀ s l x, I s l → I (f s x) (l ++ [x])) (xs : List ι) :
    ∀ s l, I s l → I (xs.foldl f s) (l ++ xs) := by
  induction xs with
  | nil => intro s l hs; rwa [List.append_nil]
  | cons x xs ih => intro s l hs; rw [List.append_cons]; exact ih _ _ (h s l x hs)

section Assoc
variable {β γ : Type}

/-- `entry(c).or_insert(..)` followed by a modification of the value -/
def upsert (f : Option β → β) (c : Bytes) : List (Bytes × β) → List (Bytes × β)
  | [] => [(c, f none)]
  | (k, v) :: m => if k = c then (k, f (some v)) :: m else (k, v) :: upsert f c m

theorem upsert_forall (P : Bytes → Prop) (f : Option β → β) (c : Bytes) (m : List (Bytes × β))
    (hm : ∀ kv ∈ m, P kv.1) (hc : P c) : ∀ kv ∈ upsert f c m, P kv.1 := by
  fun_induction upsert f c m with
  | case1 => exact List.forall_mem_cons.mpr ⟨hc, hm⟩
  | case2 => exact List.forall_mem_cons.mpr (List.forall_mem_cons.mp hm)
  | case3 k v m _ ih =>
    obtain ⟨hk, hm⟩ := List.forall_mem_cons.mp hm
    exact List.forall_mem_cons.mpr ⟨hk, ih hm⟩

/-- the keys of `m` are distinct, its values satisfy `P`, and its entries, as listed by `e`, are the
records `xs` in some order -/
structure Holds (e : Bytes → β → List γ) (P : β → Prop) (m : List (Bytes × β)) (xs : List γ) : Prop where
  distinct : m.Pairwise (fun a b => a.1 ≠ b.1)
  all : ∀ kv ∈ m, P kv.2
  perm : (m.flatMap fun kv => e kv.1 kv.2).Perm xs

variable {e : Bytes → β → List γ} {P : β → Prop} {m : List (Bytes × β)} {xs : List γ}

theorem Holds.nil : Holds e P [] [] where
  distinct := List.Pairwise.nil
  all := fun _ h => nomatch h
  perm := List.Perm.nil

/-- an `upsert` whose new value lists one record more than the old one adds that record -/
theorem Holds.upsert (h : Holds e P m xs) (f : Option β → β) (c : Bytes) (x : γ)
    (h0 : P (f none) ∧ (e c (f none)).Perm [x])
    (h1 : ∀ v, P v → P (f (some v)) ∧ (e c (f (some v))).Perm (x :: e c v)) :
    Holds e P (upsert f c m) (xs ++ [x]) := by
  suffices h' : Holds e P (BV.upsert f c m) (x :: m.flatMap fun kv => e kv.1 kv.2) from
    ⟨h'.1, h'.2, (h'.3.trans (h.perm.cons x)).trans (List.perm_append_singleton x xs).symm⟩
  obtain ⟨hd, hall, -⟩ := h
  induction m with
  | nil => exact ⟨List.pairwise_singleton .., List.forall_mem_cons.mpr ⟨h0.1, hall⟩, by
      rw [BV.upsert, List.flatMap_singleton]; exact h0.2⟩
  | cons kv m ih =>
    obtain ⟨hk, hd⟩ := List.pairwise_cons.mp hd
    obtain ⟨hkv, hall⟩ := List.forall_mem_cons.mp hall
    rw [BV.upsert]
    split
    next hc =>
      obtain ⟨hP, hp⟩ := h1 kv.2 hkv
      refine ⟨List.pairwise_cons.mpr ⟨hk, hd⟩, List.forall_mem_cons.mpr ⟨hP, hall⟩, ?_⟩
      rw [List.flatMap_cons, List.flatMap_cons, hc]
      exact hp.append_right _
    next hc =>
      obtain ⟨hd', hP, hp⟩ := ih hd hall
      refine ⟨List.pairwise_cons.mpr ⟨upsert_forall (kv.1 ≠ ·) f c m hk hc, hd'⟩,
        List.forall_mem_cons.mpr ⟨hkv, hP⟩, ?_⟩
      rw [List.flatMap_cons, List.flatMap_cons]
      exact (hp.append_left _).trans List.perm_middle

theorem Holds.map {β' : Type} {e : Bytes → β' → List γ} {P : β' → Prop} (t : β → β')
    (h : Holds (fun k v => e k (t v)) (fun v => P (t v)) m xs) :
    Holds e P (m.map fun kv => (kv.1, t kv.2)) xs where
  distinct := List.pairwise_map.mpr h.distinct
  all := List.forall_mem_map.mpr h.all
  perm := by rw [List.flatMap_map]; exact h.perm

end Assoc

variable {α : Type}

def toRec (k : Bytes) (iv : Iv α) : Rec × α := (⟨k, iv.start, iv.stop⟩, iv.val)
def ents (k : Bytes) (t : Lapper α) : List (Rec × α) := t.intervals.toList.map (toRec k)

theorem iter_eq (m : GMap α) : GMap.iter m = m.flatMap fun kv => ents kv.1 kv.2 := rfl

theorem groupPush_eq (g : List (Bytes × List (Iv α))) (c : Bytes) (iv : Iv α) :
    groupPush g c iv = upsert (fun o => o.getD [] ++ [iv]) c g := by
  induction g with
  | nil => rfl
  | cons kv g ih => rw [groupPush, upsert, ih]; rfl

theorem insert_nil (r : Rec) (v : α) :
    GMap.insert ([] : GMap α) r v = [(r.chrom, (Lapper.new []).insert ⟨r.start, r.stop, v⟩)] := rfl

theorem insert_cons (k : Bytes) (w : Lapper α) (rest : GMap α) (r : Rec) (v : α) :
    GMap.insert ((k, w) :: rest) r v =
      if k = r.chrom then (k, w.insert ⟨r.start, r.stop, v⟩) :: rest
      else (k, w) :: GMap.insert rest r v := by
  by_cases h : k = r.chrom
  · rw [GMap.insert, GMap.get?, GMap.put, if_pos h, if_pos h, if_pos h]; rfl
  · rw [GMap.insert, GMap.get?, GMap.put, if_neg h, if_neg h, if_neg h]; rfl

theorem insert_eq (m : GMap α) (r : Rec) (v : α) :
    GMap.insert m r v = upsert (fun o => (o.getD (Lapper.new [])).insert ⟨r.start, r.stop, v⟩) r.chrom m := by
  induction m with
  | nil => rfl
  | cons kv m ih => rw [insert_cons, upsert, ih]; rfl

abbrev Loaded (m : GMap α) (xs : List (Rec × α)) : Prop := Holds ents Inv m xs

theorem ents_new (c : Bytes) (l : List (Iv α)) : (ents c (Lapper.new l)).Perm (l.map (toRec c)) :=
  (new_intervals_perm l).map _

theorem ents_insert (c : Bytes) (t : Lapper α) (iv : Iv α) :
    (ents c (t.insert iv)).Perm (toRec c iv :: ents c t) :=
  (insert_intervals_perm t iv).map _

/-- during `from_iter` the invariant is kept on the groups, read through the trees they will become -/
theorem loaded_fromIter (xs : List (Rec × α)) : Loaded (GMap.fromIter xs) xs := by
  refine Holds.map Lapper.new (foldl_hist (Holds _ _) _ (fun g l x h => ?_) xs [] [] Holds.nil)
  rw [groupPush_eq]
  refine h.upsert _ _ x ⟨inv_new _, ents_new _ [_]⟩ fun l _ => ⟨inv_new _, ?_⟩
  exact (ents_new _ _).trans (((List.perm_append_singleton _ l).map _).trans ((ents_new _ l).symm.cons _))

theorem loaded_insert {m : GMap α} {xs : List (Rec × α)} (h : Loaded m xs) (x : Rec × α) :
    Loaded (GMap.insert m x.1 x.2) (xs ++ [x]) := by
  rw [insert_eq]
  refine h.upsert _ _ x ⟨inv_insert _ (inv_new _) _, ?_⟩ fun t ht => ⟨inv_insert t ht _, ents_insert _ t _⟩
  exact (ents_insert _ _ _).trans ((ents_new _ []).cons _)

theorem loaded_build (bulk ins : List (Rec × α)) : Loaded (GMap.build bulk ins) (bulk ++ ins) :=
  foldl_hist Loaded _ (fun _ _ x h => loaded_insert h x) ins _ _ (loaded_fromIter bulk)

theorem enumFrom_eq_zipIdx {β : Type} (n : Nat) (xs : List β) : enumFrom n xs = xs.zipIdx n := by
  induction xs generalizing n with
  | nil => rfl
  | cons x xs ih => rw [enumFrom, ih, List.zipIdx_cons]

theorem enumFrom_map_fst {β : Type} (n : Nat) (xs : List β) : (enumFrom n xs).map (·.1) = xs := by
  rw [enumFrom_eq_zipIdx]; exact List.zipIdx_map_fst n xs

theorem enumFrom_map_snd {β : Type} (n : Nat) (xs : List β) :
    (enumFrom n xs).map (·.2) = List.range' n xs.length := by
  rw [enumFrom_eq_zipIdx]; exact List.zipIdx_map_snd n xs

theorem mem_enumFrom0 {β : Type} (xs : List β) : ∀ e ∈ enumFrom 0 xs, xs[e.2]? = some e.1 := by
  intro e he
  rw [enumFrom_eq_zipIdx] at he
  obtain ⟨h, h'⟩ := List.mem_zipIdx' he
  rw [h', List.getElem?_eq_getElem h]

theorem enumFrom_map {β γ : Type} (f : β → γ) (n : Nat) (xs : List β) :
    enumFrom n (xs.map f) = (enumFrom n xs).map (fun p => (f p.1, p.2)) := by
  rw [enumFrom_eq_zipIdx, enumFrom_eq_zipIdx, List.zipIdx_map]; rfl

theorem enumFrom_eq_range {β : Type} [Inhabited β] (n : Nat) (xs : List β) :
    enumFrom n xs = (List.range xs.length).map (fun i => (xs.getD i default, i + n)) := by
  induction xs generalizing n with
  | nil => rfl
  | cons x xs ih =>
    rw [List.length_cons, List.range_succ_eq_map, List.map_cons, List.map_map, enumFrom, ih,
      List.getD_cons_zero, Nat.zero_add]
    refine congrArg _ (List.map_congr_left fun i _ => ?_)
    rw [Function.comp, List.getD_cons_succ, Nat.succ_add_eq_add_succ]

end BV
