import BedVerif.Spec.Text
namespace BV

theorem stripEol_of_getLast? {t : Bytes} (h : t.getLast? ≠ some LF) : stripEol t = t := by
  have h' : ∀ r, t.reverse ≠ 10 :: r := fun r e => h (by rw [← List.head?_reverse, e]; rfl)
  unfold stripEol
  split
  · next e => exact absurd e (h' _)
  · next e => exact absurd e (h' _)
  · rfl

theorem stripEol_concat_LF (t : Bytes) :
    stripEol (t ++ [LF]) = if t.getLast? = some CR then t.dropLast else t := by
  unfold stripEol
  rw [List.reverse_append, ← List.head?_reverse]
  split
  · next r e =>
    rw [List.reverse_eq_cons_iff.mp (List.cons.inj e).2, List.reverse_append, List.dropLast_concat]
    rfl
  · next r hr e =>
    have e' : t.reverse = r := (List.cons.inj e).2
    have : t.reverse.head? ≠ some CR := by
      rw [e']
      intro hh
      cases r with
      | nil => cases hh
      | cons a r => cases hh; exact hr _ rfl
    rw [if_neg this, ← e', List.reverse_reverse]
  · next h1 h2 => exact absurd rfl (h2 _)

theorem stripEol_crlf (t : Bytes) : stripEol (t ++ [CR, LF]) = t := by
  rw [List.append_cons t CR [LF], stripEol_concat_LF, List.getLast?_concat, if_pos rfl, List.dropLast_concat]

theorem stripEol_lf {t : Bytes} (h : CR ∉ t) : stripEol (t ++ [LF]) = t := by
  rw [stripEol_concat_LF, if_neg (fun e => h (List.mem_of_getLast? e))]

theorem stripEol_of_not_mem {t : Bytes} (h : LF ∉ t) : stripEol t = t :=
  stripEol_of_getLast? (fun e => h (List.mem_of_getLast? e))

theorem isPrefix_append (p b : Bytes) : isPrefix p (p ++ b) = true := by
  induction p with
  | nil => rfl
  | cons a as ih => simp only [List.cons_append, isPrefix, beq_self_eq_true, ih, Bool.and_self]

theorem isPrefix_stripEol_comment (p body : Bytes) (hcr : CR ∉ p) :
    isPrefix p (stripEol (p ++ body ++ [LF])) = true := by
  rw [stripEol_concat_LF]
  split
  · next h =>
    -- a CR is stripped as well: it is the last byte of `body`, since `p` has none
    have hb : body ≠ [] := by
      rintro rfl
      exact hcr (List.mem_of_getLast? (by simpa using h))
    rw [List.dropLast_append_of_ne_nil hb]
    exact isPrefix_append p _
  · exact isPrefix_append p _

end BV
