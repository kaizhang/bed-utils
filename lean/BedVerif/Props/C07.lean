import BedVerif.Lemmas.MergeBed
/-!
# C07 — merging sorted records groups exactly the connected runs

For input sorted by (chromosome, start, end): `merge_sorted_bed_with` hands every record to the
closure in exactly one group, in input order; the groups are the maximal runs chained by overlap or
adjacency on one chromosome; `merge_sorted_bed` emits one range per group from the smallest start
to the largest end; its output is sorted, pairwise disjoint and non-adjacent within a chromosome and
covers exactly the input's positions. (`SortedRecs`, `GoodGroups`, `coveredBy` are defined in
`Lemmas/MergeBed.lean`.)
-/
namespace BV

theorem C07_groups (xs : List Rec) (hs : SortedRecs xs) (hv : ∀ r ∈ xs, r.start ≤ r.stop) :
    ∃ gs, groups xs = .ok gs ∧ GoodGroups xs gs := by
  have _ := hv   -- not needed for this statement
  exact groups_good xs hs

/-- stronger separation: records of *any* later group neither overlap nor abut records of an earlier
one on the same chromosome -/
theorem C07_groups_separated (xs : List Rec) (hs : SortedRecs xs) (hv : ∀ r ∈ xs, r.start ≤ r.stop)
    (gs : List (List Rec)) (hg : groups xs = .ok gs) :
    ∀ i j (hi : i < gs.length) (hj : j < gs.length), i < j → ∀ a ∈ gs[i], ∀ b ∈ gs[j], a.chrom ≠ b.chrom ∨ a.stop < b.start := by
  have _ := hv   -- not needed for this statement
  intro i j hi hj hij a ha b hb
  exact (List.pairwise_iff_getElem.mp (groupLt_pairwise hs (good_of_ok hs hg)) i j hi hj hij a ha b hb).2

/-- `merge_sorted_bed`: one range per group, from the smallest start to the largest end -/
theorem C07_merged_ranges (xs : List Rec) (hs : SortedRecs xs) (hv : ∀ r ∈ xs, r.start ≤ r.stop)
    (gs : List (List Rec)) (hg : groups xs = .ok gs) :
    mergeSortedBed xs = .ok (gs.map mergeGroup) ∧
    ∀ g ∈ gs, (mergeGroup g).start = (g.headD default).start ∧
      (∀ a ∈ g, (mergeGroup g).start ≤ a.start ∧ a.stop ≤ (mergeGroup g).stop) ∧
      (∃ a ∈ g, a.stop = (mergeGroup g).stop) := by
  have _ := hv   -- not needed for this statement
  have hG := good_of_ok hs hg
  refine ⟨mergeSortedBed_ok hg, ?_⟩
  intro g hgm
  exact mergeGroup_facts (hG.nonempty g hgm) (hG.sorted hs hgm) (hG.oneChrom g hgm)

/-- the output is sorted, pairwise disjoint and non-adjacent within a chromosome, and covers exactly
the positions covered by the input -/
theorem C07_merged (xs : List Rec) (hs : SortedRecs xs) (hv : ∀ r ∈ xs, r.start ≤ r.stop) :
    ∃ out, mergeSortedBed xs = .ok out ∧ SortedRecs out ∧
      (∀ i (h : i + 1 < out.length), out[i].chrom ≠ out[i+1].chrom ∨ out[i].stop < out[i+1].start) ∧
      (∀ c p, coveredBy xs c p ↔ coveredBy out c p) := by
  obtain ⟨gs, hg, hG⟩ := groups_good xs hs
  exact ⟨gs.map mergeGroup, mergeSortedBed_ok hg, merged_ok hs hv hG rfl⟩

/-- unsorted input is rejected by a panic or still partitioned — never silently dropped: whenever
`groups` returns, the groups flatten to the input -/
theorem C07_groups_flatten_any (xs : List Rec) (gs : List (List Rec)) (hg : groups xs = .ok gs) : gs.flatten = xs :=
  groups_flatten_any xs gs hg

/-- witness: chromosome change with overlapping coordinates, a book-ended record, a nested record
with a smaller end, a gap of one base -/
example : groups [⟨[1], 0, 10⟩, ⟨[1], 2, 5⟩, ⟨[1], 10, 12⟩, ⟨[1], 13, 14⟩, ⟨[2], 0, 10⟩]
    = .ok [[⟨[1], 0, 10⟩, ⟨[1], 2, 5⟩, ⟨[1], 10, 12⟩], [⟨[1], 13, 14⟩], [⟨[2], 0, 10⟩]] := by decide
example : SortedRecs [⟨[1], 0, 10⟩, ⟨[1], 2, 5⟩, ⟨[1], 10, 12⟩, ⟨[1], 13, 14⟩, ⟨[2], 0, 10⟩] := by
  unfold SortedRecs; decide

end BV
