import BedVerif.Lemmas.LapperCount
import BedVerif.Lemmas.C18Hist
import BedVerif.Lemmas.C18Runs
namespace BV
variable {α : Type}

/-- list-level core: merging a start-sorted list of non-empty intervals gives a canonical list
covering exactly the same positions -/
theorem C18_mergeList_canonical (l : List (Iv α)) (hs : SortedStart l) (hne : ∀ iv ∈ l, iv.start < iv.stop) :
    Canonical (mergeList l) ∧ ∀ p, covered (mergeList l) p ↔ covered l p :=
  C18h.mergeList_canonical l hs hne

/-- a canonical list is determined by the set of positions it covers: it is *the* minimal disjoint,
non-adjacent cover -/
theorem C18_canonical_unique {β : Type} (l₁ : List (Iv α)) (l₂ : List (Iv β)) (h₁ : Canonical l₁) (h₂ : Canonical l₂)
    (h : ∀ p, covered l₁ p ↔ covered l₂ p) :
    l₁.map (fun i => (i.start, i.stop)) = l₂.map (fun i => (i.start, i.stop)) :=
  (C18h.canonicalCover_eq l₁ l₁ h₁ fun _ => Iff.rfl).symm.trans (C18h.canonicalCover_eq l₂ l₁ h₂ fun p => (h p).symm)

/-- merging a canonical list changes nothing -/
theorem C18_mergeList_of_canonical (l : List (Iv α)) (h : Canonical l) : mergeList l = l := by
  rw [mergeList, C18h.mergeFold_of_sep l [] h.2 (fun _ h => nomatch h), List.append_nil, List.reverse_reverse]

/-- C18 for every reachable state: the merged content is canonical, covers exactly what was covered
before, and `merge_overlaps` is idempotent -/
theorem C18_merge_canonical (l : List (Iv α)) (ops : List (Op α)) (h : NonEmptyIvs l ops) :
    Canonical (Lapper.run l ops).mergeOverlaps.intervals.toList ∧
    (∀ p, covered (Lapper.run l ops).mergeOverlaps.intervals.toList p ↔ covered (Lapper.run l ops).intervals.toList p) ∧
    (Lapper.run l ops).mergeOverlaps.mergeOverlaps.intervals.toList = (Lapper.run l ops).mergeOverlaps.intervals.toList :=
  have g := Lapper.Hist.run l ops h
  have hm := C18_mergeList_canonical _ g.inv.sortedStart g.ne
  ⟨hm.1, hm.2, C18_mergeList_of_canonical _ hm.1⟩

/-- merges never change the set of covered positions: after any history the stored intervals cover
exactly the positions covered by the supplied intervals -/
theorem C18_covered_supplied (l : List (Iv α)) (ops : List (Op α)) (h : NonEmptyIvs l ops) (p : Nat) :
    covered (Lapper.run l ops).intervals.toList p ↔ covered (recordsOf l ops) p :=
  (Lapper.Hist.run l ops h).cov p

/-- all stored intervals stay non-empty -/
theorem C18_stored_nonempty (l : List (Iv α)) (ops : List (Op α)) (h : NonEmptyIvs l ops) :
    ∀ iv ∈ (Lapper.run l ops).intervals.toList, iv.start < iv.stop :=
  (Lapper.Hist.run l ops h).ne

/-- the `overlaps_merged` flag is only set when the content is canonical -/
theorem C18_merged_flag (l : List (Iv α)) (ops : List (Op α)) (h : NonEmptyIvs l ops) :
    (Lapper.run l ops).merged = true → Canonical (Lapper.run l ops).intervals.toList :=
  (Lapper.Hist.run l ops h).flag

/-- afterwards every query answers for the merged set, and intervals inserted later are again found
and counted: in any history (merges included) `find`, `count` and a fresh `seek` agree with the
filter over the current content, and an insert adds exactly its interval to the content -/
theorem C18_queries_after (l : List (Iv α)) (ops : List (Op α)) (h : NonEmptyIvs l ops) (qs qe : Nat) (hq : qs < qe) :
    let s := Lapper.run l ops
    s.find qs qe = s.intervals.toList.filter (·.ov qs qe) ∧
    s.count qs qe = (s.intervals.toList.filter (·.ov qs qe)).length ∧
    (s.seek qs qe 0).1 = s.intervals.toList.filter (·.ov qs qe) := by
  intro s
  have g := Lapper.Hist.run l ops h
  refine ⟨g.inv.find_eq_filter qs qe, ?_, ?_⟩
  · rw [count_eq s g.inv g.weak qs qe hq, List.countP_eq_length_filter]
  · exact (seek_step s g.inv.sortedStart g.inv.maxLen_ge qs qe 0 0 (Below.zero _ _) (Nat.zero_le _)).1

theorem C18_insert_after (l : List (Iv α)) (ops : List (Op α)) (iv : Iv α) :
    (Lapper.run l (ops ++ [.insert iv])).intervals.toList.Perm (iv :: (Lapper.run l ops).intervals.toList) := by
  unfold Lapper.run
  rw [List.foldl_append]
  exact insert_intervals_perm _ iv

/-- the specification-level canonical cover used by the driver (`canonicalCover`, maximal runs of the
covered predicate) is what `merge_overlaps` computes -/
theorem C18_merge_eq_canonicalCover (l : List (Iv α)) (hs : SortedStart l) (hne : ∀ iv ∈ l, iv.start < iv.stop) :
    (mergeList l).map (fun i => (i.start, i.stop)) = canonicalCover l :=
  have hm := C18_mergeList_canonical l hs hne
  (C18h.canonicalCover_eq _ l hm.1 hm.2).symm

end BV
