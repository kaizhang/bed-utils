import BedVerif.Model.Store
import BedVerif.Lemmas.C09Le
import BedVerif.Lemmas.C09Write
import BedVerif.Lemmas.C09BufRead
import BedVerif.Lemmas.C09Read
/-!
# C09 — sort chunks survive short writes, short reads and surface I/O errors

The storage is a state machine with a fault plan: every `write` call may accept only part of the
buffer or fail hard; every `read` call may return fewer bytes, be interrupted, or fail hard.
`write_all`, `read_exact` and `BufWriter` are transcribed from std. The theorems quantify over ALL
fault plans (any number of faults, any positions), all record lists and all payload sizes
(below, at and above the `BufWriter` capacity — the capacity itself is a parameter).
`BufReader` (the uncompressed read stack of `ExternalChunk::new`) is transcribed from std as well
(`Model/BufRead.lean`), with its capacity as a parameter. The lz4 encoder/decoder is not modelled: for it
the correspondence check applies the specification directly to the implementation's behaviour.
-/
namespace BV

def NoHardW (plan : List WFault) : Prop := ∀ f ∈ plan, f ≠ .fail
def NoHardR (plan : List RFault) : Prop := ∀ f ∈ plan, f ≠ .fail
/-- the part of the fault plan a run consumed -/
def consumedW (plan rest : List WFault) : List WFault := plan.take (plan.length - rest.length)

/-- the 8-byte little-endian length header round-trips for every length below 2^64 -/
theorem C09_le64_roundtrip (n : Nat) (h : n < 2^64) : unle64 (le64 n) = n ∧ (le64 n).length = 8 :=
  ⟨C09_unle64_le64 n h, C09_le64_length n⟩

/-- `write_all` under any plan without hard errors (writes that accept only part of a buffer): all
bytes reach the storage, in order -/
theorem C09_writeAll_ok (s : WStore) (h : NoHardW s.plan) (buf : Bytes) (fuel : Nat) (hf : buf.length < fuel) :
    (s.writeAll fuel buf).1 = .ok () ∧ (s.writeAll fuel buf).2.data = s.data ++ buf ∧ NoHardW (s.writeAll fuel buf).2.plan :=
  (writeAll_spec fuel s buf hf).ok_of_noHard h

/-- bare writer: with no hard error the dump succeeds and the storage holds exactly the framed records -/
theorem C09_dumpBare_ok (plan : List WFault) (h : NoHardW plan) (ps : List Bytes) :
    (dumpBare ⟨[], plan⟩ ps).1 = .ok () ∧ (dumpBare ⟨[], plan⟩ ps).2.data = frames ps := by
  have := (dumpBare_spec ps ⟨[], plan⟩).ok_of_noHard h
  exact ⟨this.1, this.2.1⟩

/-- … and under ANY plan a dump that reports Ok has stored exactly the framed records (never a
silently missing, truncated or altered record), and has not met a hard error -/
theorem C09_dumpBare_never_silent (plan : List WFault) (ps : List Bytes) (h : (dumpBare ⟨[], plan⟩ ps).1 = .ok ()) :
    (dumpBare ⟨[], plan⟩ ps).2.data = frames ps ∧ NoHardW (consumedW plan (dumpBare ⟨[], plan⟩ ps).2.plan) :=
  (dumpBare_spec ps ⟨[], plan⟩).of_ok h

/-- behind `BufWriter` (any capacity ≥ 1, in particular records below, at and above the capacity):
same two statements for `dump` followed by `flush` -/
theorem C09_dumpBuf_ok (cap : Nat) (hcap : 0 < cap) (plan : List WFault) (h : NoHardW plan) (ps : List Bytes) :
    (dumpBuf ⟨cap, [], ⟨[], plan⟩⟩ ps).1 = .ok () ∧
    (dumpBuf ⟨cap, [], ⟨[], plan⟩⟩ ps).2.inner.data = frames ps ∧ (dumpBuf ⟨cap, [], ⟨[], plan⟩⟩ ps).2.buf = [] := by
  have _ := hcap  -- the capacity bound is not needed
  have := (dumpBuf_spec ps ⟨cap, [], ⟨[], plan⟩⟩).ok_of_noHard h
  exact ⟨this.1, this.2.1.1, this.2.1.2⟩
theorem C09_dumpBuf_never_silent (cap : Nat) (hcap : 0 < cap) (plan : List WFault) (ps : List Bytes)
    (h : (dumpBuf ⟨cap, [], ⟨[], plan⟩⟩ ps).1 = .ok ()) :
    (dumpBuf ⟨cap, [], ⟨[], plan⟩⟩ ps).2.inner.data = frames ps ∧
    NoHardW (consumedW plan (dumpBuf ⟨cap, [], ⟨[], plan⟩⟩ ps).2.inner.plan) := by
  have _ := hcap  -- the capacity bound is not needed
  have := (dumpBuf_spec ps ⟨cap, [], ⟨[], plan⟩⟩).of_ok h
  exact ⟨this.1.1, this.2⟩

def PayloadsFit (ps : List Bytes) : Prop := ∀ p ∈ ps, p.length < 2^64

/-- through `BufReader` of ANY capacity (0 included), under any plan of short reads and interrupts: every
record, identical and in order, then the end -/
theorem C09_bufread_ok (cap : Nat) (plan : List RFault) (h : NoHardR plan) (ps : List Bytes) (hp : PayloadsFit ps) :
    chunkItemsBuf (ps.length + 1) ⟨cap, [], ⟨frames ps, plan⟩⟩ = ps.map .ok :=
  (chunkItemsBuf_spec ps ⟨cap, [], ⟨frames ps, plan⟩⟩ rfl hp).resolve_right fun ⟨hf, _⟩ => h _ hf rfl

/-- … and under ANY read plan: a prefix of the dumped records, unaltered and in order, then at most one
error item; a chunk that ends without an error item is complete -/
theorem C09_bufread_never_silent (cap : Nat) (plan : List RFault) (ps : List Bytes) (hp : PayloadsFit ps) :
    ∃ k, k ≤ ps.length ∧
      (chunkItemsBuf (ps.length + 1) ⟨cap, [], ⟨frames ps, plan⟩⟩ = (ps.take k).map .ok ++ [.err] ∨
       (chunkItemsBuf (ps.length + 1) ⟨cap, [], ⟨frames ps, plan⟩⟩ = (ps.take k).map .ok ∧ k = ps.length)) := by
  rcases chunkItemsBuf_spec ps ⟨cap, [], ⟨frames ps, plan⟩⟩ rfl hp with h | ⟨_, k, hk, h⟩
  · exact ⟨ps.length, Nat.le_refl _, .inr ⟨by rw [h, List.take_length], rfl⟩⟩
  · exact ⟨k, hk, .inl h⟩

/-- a hard error on the first storage read is the first item (whatever the storage holds:
`chunkItemsBuf_fail_first`) -/
theorem C09_bufread_error_surfaces (cap : Nat) (plan : List RFault) (ps : List Bytes) :
    chunkItemsBuf (ps.length + 1) ⟨cap, [], ⟨frames ps, .fail :: plan⟩⟩ = [.err] :=
  chunkItemsBuf_fail_first cap _ plan ps.length

/-- reading back from the bare storage (the `BufReader` of capacity 0 passes every `read` on to it) under
any plan of short reads and interrupts (no hard error): every record, identical and in order, then the end -/
theorem C09_read_ok (plan : List RFault) (h : NoHardR plan) (ps : List Bytes) (hp : PayloadsFit ps) :
    chunkItems (ps.length + 1) ⟨frames ps, plan⟩ = ps.map .ok := by
  rw [← chunkItemsBuf_bare]
  exact C09_bufread_ok 0 plan h ps hp

/-- under ANY read plan: the items yielded are a prefix of the dumped records, unaltered and in
order, followed by at most one error item; a chunk that ends without an error item is complete -/
theorem C09_read_never_silent (plan : List RFault) (ps : List Bytes) (hp : PayloadsFit ps) :
    ∃ k, k ≤ ps.length ∧
      (chunkItems (ps.length + 1) ⟨frames ps, plan⟩ = (ps.take k).map .ok ++ [.err] ∨
       (chunkItems (ps.length + 1) ⟨frames ps, plan⟩ = (ps.take k).map .ok ∧ k = ps.length)) := by
  rw [← chunkItemsBuf_bare]
  exact C09_bufread_never_silent 0 plan ps hp

/-- a hard read error that is reached is reported: if the plan's first entry is a hard error the
first item is an error -/
theorem C09_read_error_surfaces (plan : List RFault) (ps : List Bytes) (hne : ps ≠ []) :
    chunkItems (ps.length + 1) ⟨frames ps, .fail :: plan⟩ = [.err] := by
  have _ := hne  -- holds for the empty chunk too
  rw [← chunkItemsBuf_bare]
  exact chunkItemsBuf_fail_first 0 _ plan ps.length

/-- witness: capacity 4 (below the 8-byte header), short reads and an interrupt -/
example : chunkItemsBuf 3 ⟨4, [], ⟨frames [[1, 2, 3], [4]], [.give 3, .interrupted, .give 1, .give 100, .give 2]⟩⟩
    = [.ok [1, 2, 3], .ok [4]] := by decide +kernel

/-- witness of the repaired defect: a 20-byte record through a 16-byte `BufWriter` over a storage whose
second write accepts 5 bytes -/
example : (dumpBuf ⟨16, [], ⟨[], [.accept 100, .accept 5]⟩⟩ [List.replicate 20 7]).1 = .ok () ∧
    (dumpBuf ⟨16, [], ⟨[], [.accept 100, .accept 5]⟩⟩ [List.replicate 20 7]).2.inner.data = frames [List.replicate 20 7] := by decide +kernel

end BV
