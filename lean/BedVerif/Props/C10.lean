import BedVerif.Model.Sort
import BedVerif.Lemmas.C10Drain
/-!
# C10 — k-way merge is ordered and complete, or it reports an error

`Merger` mirrors `BinaryHeapMerger`: priming loop that returns at the first error without setting
`initiated`, pop of the greatest `(Reverse(value), chunk index)`, refill from the same chunk, the popped
item dropped when the refill yields an error. All statements hold for any comparator that is a total
preorder (reversed ones included), any number of chunks, empty chunks included. Each is a special case of
`C10.drain_spec` (`Lemmas/C10Drain.lean`).
-/
namespace BV
variable {ε α : Type}

theorem C10_aux_hasErr_false {l : List (Item ε α)} (h : AllOk l) : hasErr l = false := by
  cases hh : hasErr l
  · rfl
  · obtain ⟨e, he⟩ := C10.hasErr_iff.mp hh
    obtain ⟨a, ha⟩ := h _ he
    cases ha

/-- every error item delivered is an error item of some chunk -/
theorem C10_errors_genuine (cmp : α → α → Ordering) (chunks : List (List (Item ε α))) (e : ε)
    (h : Item.err e ∈ (drain cmp chunks).1) : ∃ c ∈ chunks, Item.err e ∈ c := by
  obtain ⟨lost, hp, _⟩ := (C10.drain_spec cmp chunks).2.1
  exact List.mem_flatten.mp (hp.symm.subset (List.mem_append_left _ h))

/-- if any chunk stream produces an error, the merged stream delivers an error … -/
theorem C10_error_delivered (cmp : α → α → Ordering) (chunks : List (List (Item ε α)))
    (he : ∃ c ∈ chunks, hasErr c = true) : hasErr (drain cmp chunks).1 = true := by
  obtain ⟨c, hc, hec⟩ := he
  obtain ⟨e, hee⟩ := C10.hasErr_iff.mp hec
  obtain ⟨lost, hp, hl⟩ := (C10.drain_spec cmp chunks).2.1
  apply (Bool.not_eq_false _).mp
  intro hno
  -- without an error delivered nothing is lost, so `err e` is among the delivered items
  rw [hl hno, List.append_nil] at hp
  have := C10.hasErr_iff.mpr ⟨e, hp.subset (List.mem_flatten.mpr ⟨c, hc, hee⟩)⟩
  rw [hno] at this
  cases this

set_option linter.unusedVariables false in
/-- … so a merged stream that ends without ever yielding an error is complete
(the hypotheses `h` and `hs` turn out not to be needed) -/
theorem C10_complete_or_error (cmp : α → α → Ordering) (h : TotalPreorder cmp) (chunks : List (List (Item ε α)))
    (hs : ∀ c ∈ chunks, (okItems c).Pairwise (le cmp)) (hno : hasErr (drain cmp chunks).1 = false) :
    (∀ c ∈ chunks, AllOk c) ∧ (okItems (drain cmp chunks).1).Perm (okItems chunks.flatten) := by
  refine ⟨fun c hc => C10.hasErr_false_allOk (Bool.eq_false_iff.mpr fun hec => ?_), C10.complete cmp chunks hno⟩
  rw [C10_error_delivered cmp chunks ⟨c, hc, hec⟩] at hno
  cases hno

/-- the items delivered before the first error are in order -/
theorem C10_prefix_sorted (cmp : α → α → Ordering) (h : TotalPreorder cmp) (chunks : List (List (Item ε α)))
    (hs : ∀ c ∈ chunks, (okItems c).Pairwise (le cmp)) :
    (beforeFirstErr (drain cmp chunks).1).Pairwise (le cmp) :=
  (C10.drain_spec cmp chunks).2.2 h hs

/-- merging any number of individually sorted, error-free chunk streams (empty ones, a single one,
duplicates within and across chunks) yields every item of every chunk exactly once in
non-decreasing order, then ends -/
theorem C10_merge_ok (cmp : α → α → Ordering) (h : TotalPreorder cmp) (chunks : List (List (Item ε α)))
    (hok : ∀ c ∈ chunks, AllOk c) (hs : ∀ c ∈ chunks, (okItems c).Pairwise (le cmp)) :
    AllOk (drain cmp chunks).1 ∧
    (okItems (drain cmp chunks).1).Perm (okItems chunks.flatten) ∧
    (okItems (drain cmp chunks).1).Pairwise (le cmp) := by
  have hno : hasErr (drain cmp chunks).1 = false := Bool.eq_false_iff.mpr fun he => by
    obtain ⟨e, hee⟩ := C10.hasErr_iff.mp he
    obtain ⟨c, hc, hec⟩ := C10_errors_genuine cmp chunks e hee
    obtain ⟨a, ha⟩ := hok c hc _ hec
    cases ha
  refine ⟨C10.hasErr_false_allOk hno, C10.complete cmp chunks hno, ?_⟩
  rw [← C10.beforeFirstErr_noErr hno]
  exact C10_prefix_sorted cmp h chunks hs

/-- … and stays ended (whatever the chunks contained) -/
theorem C10_stays_ended (cmp : α → α → Ordering) (chunks : List (List (Item ε α))) :
    (((drain cmp chunks).2).next cmp).1 = none ∧
    (((((drain cmp chunks).2).next cmp).2).next cmp).1 = none := by
  simp only [(C10.drain_spec cmp chunks).1, and_self]

/-- witnesses (fixtures `test_merger` of the crate, and an error while priming) -/
example : (drain (ε := String) (compare : Int → Int → Ordering) [[.ok 4, .ok 5, .ok 7], [.ok 1, .ok 6], [.ok 3], []]).1
    = [.ok 1, .ok 3, .ok 4, .ok 5, .ok 6, .ok 7] := by decide +kernel
example : (drain (compare : Int → Int → Ordering) [[.ok 3, .err "E"], [.ok 1, .ok 2]]).1 = [.ok 1, .ok 2, .err "E"] := by decide +kernel

end BV
