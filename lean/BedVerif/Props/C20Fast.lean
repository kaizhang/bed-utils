import BedVerif.Props.C20
import BedVerif.Lemmas.FastDepth
/-!
C20, large sets: the run list the driver compares `depth()` with on sets of 10^4–10^5 intervals — `fastDepth'`, three core
merge sorts and one linear sweep over the endpoints — is THE run list satisfying the specification, for every list (empty and
inverted intervals included): a run list satisfies `IsDepthRLE` exactly when it equals `fastDepth' l`.
-/
namespace BV
variable {α : Type}

theorem C20_isDepthRLE_unique (l : List (Iv α)) (r₁ r₂ : List (Iv Nat)) (h₁ : IsDepthRLE l r₁) (h₂ : IsDepthRLE l r₂) : r₁ = r₂ :=
  isDepthRLE_unique l r₁ r₂ h₁ h₂
theorem C20_fastDepth_spec (l : List (Iv α)) : IsDepthRLE l (fastDepth' l) := fastDepth'_spec l
theorem C20_isDepthRLE_iff_eq_fastDepth (l : List (Iv α)) (runs : List (Iv Nat)) : IsDepthRLE l runs ↔ runs = fastDepth' l :=
  isDepthRLE_iff_eq_fastDepth' l runs

/-- the model's `depth()` (position-by-position probing through the seek cursor, as the Rust does) and the sweep are the same
function on every reachable state: two very different algorithms, one specification -/
theorem C20_depth_eq_fastDepth (l : List (Iv α)) (ops : List (Op α)) (h : NonEmptyIvs l ops) (hfit : FitsU64 l ops) :
    (Lapper.run l ops).depth = fastDepth' (Lapper.run l ops).intervals.toList :=
  (isDepthRLE_iff_eq_fastDepth' _ _).mp (C20_depth_spec l ops h hfit)

/-! ## Non-vacuity checks

`decide` cannot evaluate `List.mergeSort` (well-founded recursion does not reduce in the kernel), so
the values below are obtained through the theorems: the expected run list passes the Boolean checker
`isDepthRLEB` (evaluated by the kernel), the checker is sound (`C20_isDepthRLEB_sound`), and whatever
meets the specification is `fastDepth` / `fastDepth'`. The compiled definitions give the same values
(`#guard` in `Lemmas/FastDepth.lean`).
-/

/-- fixture `test_depth_harder` of the crate -/
example : fastDepth [(⟨1,10,()⟩ : Iv Unit), ⟨2,5,()⟩, ⟨3,8,()⟩, ⟨3,8,()⟩, ⟨3,8,()⟩, ⟨5,8,()⟩, ⟨9,11,()⟩, ⟨15,20,()⟩]
    = [⟨1,2,1⟩, ⟨2,3,2⟩, ⟨3,8,5⟩, ⟨8,9,1⟩, ⟨9,10,2⟩, ⟨10,11,1⟩, ⟨15,20,1⟩] :=
  ((isDepthRLE_iff_eq_fastDepth _ _).mp (C20_isDepthRLEB_sound _ _ depth_harder_ok)).symm

example : fastDepth' [(⟨1,10,()⟩ : Iv Unit), ⟨2,5,()⟩, ⟨3,8,()⟩, ⟨3,8,()⟩, ⟨3,8,()⟩, ⟨5,8,()⟩, ⟨9,11,()⟩, ⟨15,20,()⟩]
    = [⟨1,2,1⟩, ⟨2,3,2⟩, ⟨3,8,5⟩, ⟨8,9,1⟩, ⟨9,10,2⟩, ⟨10,11,1⟩, ⟨15,20,1⟩] :=
  ((isDepthRLE_iff_eq_fastDepth' _ _).mp (C20_isDepthRLEB_sound _ _ depth_harder_ok)).symm

/-- unsorted, starting at 0, with an empty and an inverted interval, touching intervals of equal depth fused -/
example : fastDepth' [(⟨0,5,()⟩ : Iv Unit), ⟨5,7,()⟩, ⟨9,2,()⟩, ⟨7,9,()⟩, ⟨4,4,()⟩, ⟨0,1,()⟩]
    = [⟨0,1,2⟩, ⟨1,9,1⟩] :=
  ((isDepthRLE_iff_eq_fastDepth' _ _).mp (C20_isDepthRLEB_sound _ _ (by decide +kernel))).symm

/-- nothing covered: no runs -/
example : fastDepth' [(⟨5,5,()⟩ : Iv Unit), ⟨9,2,()⟩] = [] :=
  ((isDepthRLE_iff_eq_fastDepth' _ _).mp (C20_isDepthRLEB_sound _ _ (by decide +kernel))).symm

end BV
