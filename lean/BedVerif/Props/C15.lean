import BedVerif.Model.Lifecycle
/-!
# C15 — external sort leaves no temporary files behind

The theorems are about ownership and drop order in the lifecycle model (`Model/Lifecycle.lean`):
whatever the event history — any number of chunks, full or partial consumption, either drop order,
`sort_by` failing by error or panic at any point — once the sorter and the iterator (if any) are
dropped, the configured directory has no entry left from the sort and no chunk file is open; and at
every moment everything the sort has created is the one directory entry (chunk files are anonymous
and never appear in any directory). That `tempfile` and the kernel behave as modelled (the entry is
created under the configured directory and nowhere else, unlinked files vanish when closed) is
observed by the correspondence check, not proved: **partial**.
-/
namespace BV

structure FS.Inv (s : FS) : Prop where
  inside_zero : s.inside = 0
  dir_iff : s.dirEntry = s.sorterAlive
  iter_files : s.iterAlive = false → s.iterFiles = 0
  building_zero : s.sorting = false → s.building = 0
  sorting_alive : s.sorting = true → s.sorterAlive = true

theorem FS.inv_init : FS.init.Inv := ⟨rfl, rfl, fun _ => rfl, fun _ => rfl, nofun⟩

/-- Under its guard `hc` an event updates a few fields; the five facts of the new state are then named one by one
(`simp_all` finds them too, but is slow to check). -/
theorem FS.inv_step (s : FS) (h : s.Inv) (e : Ev) : (s.step e).Inv := by
  obtain ⟨h1, h2, h3, h4, h5⟩ := h
  cases e <;> dsimp only [FS.step]
  case yieldItem => exact ⟨h1, h2, h3, h4, h5⟩
  all_goals split
  case beginSort.isTrue hc => exact ⟨h1, h2, h3, nofun, fun _ => (Bool.and_eq_true _ _ ▸ hc).1⟩
  case createChunk.isTrue hc => exact ⟨h1, h2, h3, fun h => absurd (h ▸ hc) nofun, h5⟩
  case sortReturns.isTrue => exact ⟨h1, h2, nofun, fun _ => rfl, nofun⟩
  case sortFails.isTrue => exact ⟨h1, h2, h3, fun _ => rfl, nofun⟩
  case dropIter.isTrue => exact ⟨h1, h2, fun _ => rfl, h4, h5⟩
  case dropSorter.isTrue hc => exact ⟨rfl, rfl, h3, h4, fun h => by rw [h] at hc; simp at hc⟩
  all_goals exact ⟨h1, h2, h3, h4, h5⟩

theorem FS.inv_run (evs : List Ev) : (FS.run evs).Inv :=
  List.foldlRecOn evs FS.step FS.inv_init fun s h e _ => FS.inv_step s h e

/-- C15, "after": once the sorter and the iterator are both dropped (in either order, after any
history) the configured directory holds nothing of the sort and no chunk file is open -/
theorem C15_after_drops (evs : List Ev) (hs : (FS.run evs).sorterAlive = false) (hi : (FS.run evs).iterAlive = false) :
    (FS.run evs).dirEntry = false ∧ (FS.run evs).inside = 0 ∧ (FS.run evs).openFiles = 0 := by
  have h := FS.inv_run evs
  have hsort : (FS.run evs).sorting = false := by
    cases hso : (FS.run evs).sorting with
    | false => rfl
    | true => have := h.sorting_alive hso; rw [hs] at this; cases this
  refine ⟨by rw [h.dir_iff, hs], h.inside_zero, ?_⟩
  unfold FS.openFiles
  rw [h.iter_files hi, h.building_zero hsort]

/-- C15, "during": at every moment of every history the only directory entry the sort has created is
the one temporary directory, and nothing is ever visible inside it -/
theorem C15_during (evs : List Ev) : (FS.run evs).inside = 0 ∧ ((FS.run evs).dirEntry = true → (FS.run evs).sorterAlive = true) := by
  have h := FS.inv_run evs
  exact ⟨h.inside_zero, fun hd => by rw [← h.dir_iff]; exact hd⟩

/-- a failing `sort_by` (error or panic at any point) releases every chunk created so far -/
theorem C15_failure_releases (evs : List Ev) : (FS.run (evs ++ [.sortFails])).building = 0 := by
  have h := FS.inv_run (evs ++ [.sortFails])
  apply h.building_zero
  unfold FS.run
  rw [List.foldl_append]
  simp only [List.foldl_cons, List.foldl_nil, FS.step]
  split
  · rfl
  · rename_i hc; simpa using hc

/-- non-vacuity: partial consumption, iterator dropped after the sorter -/
example : (FS.run [.beginSort, .createChunk, .createChunk, .sortReturns, .yieldItem, .dropSorter, .yieldItem, .dropIter]).sorterAlive = false ∧
    (FS.run [.beginSort, .createChunk, .createChunk, .sortReturns, .yieldItem, .dropSorter, .yieldItem, .dropIter]).iterAlive = false ∧
    (FS.run [.beginSort, .createChunk, .createChunk, .sortReturns, .yieldItem, .dropSorter]).openFiles = 2 := by decide

end BV
