import BedVerif.Lemmas.LapperInv
import BedVerif.Lemmas.LapperCount
/-!
# C16 — the fast overlap count equals the number of overlapping intervals

For every set of intervals with `start ≤ stop`, every build history (`new`, inserts,
`merge_overlaps`, `set_cov`, in any order and number) and every query `qs < qe`,
`count` equals the length of `find` and equals the number of stored intervals overlapping the
query under half-open semantics.
-/
namespace BV
variable {α : Type}

theorem C16_count_eq_find (l : List (Iv α)) (ops : List (Op α)) (h : WeakIvs l ops)
    (qs qe : Nat) (hq : qs < qe) :
    (Lapper.run l ops).count qs qe = ((Lapper.run l ops).find qs qe).length ∧
    (Lapper.run l ops).count qs qe = (Lapper.run l ops).intervals.toList.countP (·.ov qs qe) := by
  obtain ⟨hinv, hw⟩ := inv_run_weak l ops h
  have hc := count_eq _ hinv hw qs qe hq
  exact ⟨by rw [hc, find_eq_filter _ hinv.sortedStart hinv.maxLen_ge, List.countP_eq_length_filter], hc⟩

/-- without a merge the stored intervals are exactly the history's records, so the count is the
number of *supplied* intervals overlapping the query -/
theorem C16_count_eq_records (l : List (Iv α)) (ops : List (Op α)) (h : WeakIvs l ops) (hn : NoMerge ops)
    (qs qe : Nat) (hq : qs < qe) :
    (Lapper.run l ops).count qs qe = (recordsOf l ops).countP (·.ov qs qe) := by
  rw [(C16_count_eq_find l ops h qs qe hq).2]
  exact (inv_run_nomerge l ops hn).2.countP_eq _

/-- non-vacuity: a history with duplicates, a zero-length interval, a merge and later inserts
meets the hypotheses -/
example : WeakIvs [(⟨10, 20, ()⟩ : Iv Unit), ⟨10, 20, ()⟩, ⟨5, 5, ()⟩] [.insert ⟨1, 3, ()⟩, .merge, .insert ⟨20, 25, ()⟩, .setCov] := by
  intro iv hiv; simp [recordsOf, insertedOf] at hiv; rcases hiv with h | h | h | h <;> subst h <;> decide

/-- regression witness of the repaired defect (`count(5,10)` on `{[10,20)}` was 1) -/
example : (Lapper.new [(⟨10, 20, ()⟩ : Iv Unit)]).count 5 10 = 0 := by decide

end BV
