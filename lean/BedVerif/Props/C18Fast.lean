import BedVerif.Lemmas.FastCover
/-!
C18/C19, large sets: the O(n log n) canonical cover the driver evaluates on sets of 10^4–10^5 intervals
(`fastCover`: drop the empty intervals, core merge sort by start, the linear merge loop of the model) is the
position-enumerating `canonicalCover` of `Spec/Lapper.lean` — for every list, empty and inverted intervals included.
-/
namespace BV
variable {α : Type}

theorem C18_fastCover_eq_canonicalCover (l : List (Iv α)) : fastCover l = canonicalCover l :=
  fastCover_eq_canonicalCover l

/-- the cover depends only on the set of covered positions (used to compare covers of differently built lists) -/
theorem C18_canonicalCover_congr {β : Type} (l : List (Iv α)) (l' : List (Iv β))
    (h : ∀ p, covered l p ↔ covered l' p) : canonicalCover l = canonicalCover l' :=
  canonicalCover_congr l l' h

/-- on every reachable state over non-empty intervals, what `merge_overlaps` leaves is the fast cover of the SUPPLIED intervals:
the stack loop of the Rust after any history of inserts and earlier merges, and a filter + merge sort + one pass over the records
ever supplied, give the same list of (start, stop) pairs -/
theorem C18_mergeOverlaps_eq_fastCover (l : List (Iv α)) (ops : List (Op α)) (h : NonEmptyIvs l ops) :
    (Lapper.run l ops).mergeOverlaps.intervals.toList.map (fun i => (i.start, i.stop)) = fastCover (recordsOf l ops) := by
  obtain ⟨hc, hcov, _⟩ := C18_merge_canonical l ops h
  rw [fastCover_eq_canonicalCover,
    C18h.canonicalCover_eq _ _ hc fun p => (hcov p).trans (C18_covered_supplied l ops h p)]

end BV
