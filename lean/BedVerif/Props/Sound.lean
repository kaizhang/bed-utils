import BedVerif.Props.C07
import BedVerif.Props.C08
import BedVerif.Props.C14
import BedVerif.Lemmas.SoundCov
/-!
# Soundness of the Boolean spec checkers (C07, C08, C14)

The driver applies Boolean checkers (Spec/Rec.lean) to the implementation's output; these theorems
show that whatever they accept satisfies the Prop-level specification the property theorems are
stated with. (`C14_tilesB_sound` and `C20_isDepthRLEB_sound` are in their property files.) The audit
of ./check C07 / C08 / C14 includes the theorems of this file with the matching prefix.
-/
namespace BV

theorem C14_rtilesB_sound (r : Rec) (bin : Nat) (qs : List Rec) (h : rtilesB r bin qs = true) : RTiles r bin qs := by
  simp only [rtilesB, Bool.and_eq_true, beq_iff_eq, List.all_eq_true, forall_mem_zip_drop_one, isEmpty_or_iff,
    decide_eq_true_eq] at h
  obtain ⟨⟨⟨⟨hcount, hchrom⟩, hfl⟩, hz⟩, hll⟩ := h
  refine ⟨hchrom, hcount, fun hp => ?_, fun hp => ?_, fun i hi => (hz i hi).1, fun i hi => (hz i hi).2, fun hp => ?_⟩
  · exact headD_eq_getElem _ _ hp ▸ (hfl hp).1
  · exact getLastD_eq_getElem _ _ hp ▸ (hfl hp).2
  · exact getLastD_eq_getElem _ _ hp ▸ hll hp

theorem C07_goodGroupsB_sound (xs : List Rec) (gs : List (List Rec)) (h : goodGroupsB xs gs = true) : GoodGroups xs gs := by
  simp only [goodGroupsB, Bool.and_eq_true, beq_iff_eq, List.all_eq_true, forall_mem_zip_drop_one, Bool.or_eq_true,
    decide_eq_true_eq, Bool.not_eq_true', List.isEmpty_eq_false_iff, bne_iff_ne, ne_eq, List.mem_range] at h
  obtain ⟨⟨⟨⟨hfl, hne⟩, hch⟩, hchain⟩, hmax⟩ := h
  refine ⟨hfl, hne, ?_, ?_, hmax⟩
  · intro g hg a ha b hb
    rw [hch g hg a ha, hch g hg b hb]
  · intro g hg i hi
    have := (hchain g hg (i + 1) hi).resolve_left (by omega)
    rwa [List.getD_eq_getElem?_getD, List.getElem?_eq_getElem hi, Option.getD_some] at this

/-- coverage agreement at the breakpoints is coverage agreement everywhere: between two consecutive
endpoints membership in every record involved is constant -/
theorem covered_eq_of_breakpoints (xs ys : List Rec)
    (h : ∀ cp ∈ recPoints xs ++ recPoints ys, coveredByB xs cp.1 cp.2 = coveredByB ys cp.1 cp.2) :
    ∀ c p, coveredByB xs c p = coveredByB ys c p := by
  intro c p
  induction p with
  | zero =>
    by_cases hx : IsBreak xs c 0
    · exact h (c, 0) (List.mem_append_left _ (mem_recPoints_of_break hx))
    · by_cases hy : IsBreak ys c 0
      · exact h (c, 0) (List.mem_append_right _ (mem_recPoints_of_break hy))
      · rw [coveredByB_zero xs c hx, coveredByB_zero ys c hy]
  | succ p ih =>
    by_cases hx : IsBreak xs c (p + 1)
    · exact h (c, p + 1) (List.mem_append_left _ (mem_recPoints_of_break hx))
    · by_cases hy : IsBreak ys c (p + 1)
      · exact h (c, p + 1) (List.mem_append_right _ (mem_recPoints_of_break hy))
      · rw [coveredByB_pred xs c p hx, coveredByB_pred ys c p hy, ih]

/-- the merged-output checker is sound for the clauses of `C07_merged` -/
theorem C07_mergedOkB_sound (xs out : List Rec) (gs : List (List Rec)) (h : mergedOkB xs out gs = true) :
    out = gs.map mergeGroup ∧ SortedRecs out ∧
    (∀ i (hi : i + 1 < out.length), out[i].chrom ≠ out[i+1].chrom ∨ out[i].stop < out[i+1].start) ∧
    (∀ c p, coveredBy xs c p ↔ coveredBy out c p) := by
  simp only [mergedOkB, Bool.and_eq_true, beq_iff_eq, List.all_eq_true, forall_mem_zip_drop_one, forall_mem_zip,
    Bool.or_eq_true, decide_eq_true_eq, bne_iff_ne, ne_eq] at h
  obtain ⟨⟨⟨⟨hlen, hz⟩, hs⟩, hadj⟩, hcov⟩ := h
  refine ⟨?_, sortedRecsB_sound out hs, hadj, ?_⟩
  · apply List.ext_getElem
    · rw [hlen, List.length_map]
    · intro i h1 h2
      obtain ⟨⟨e1, e2⟩, e3⟩ := hz i h1 (hlen ▸ h1)
      rw [List.getElem_map, mergeGroup, ← e1, ← e2, ← e3]
  · intro c p
    rw [← coveredByB_iff, ← coveredByB_iff, covered_eq_of_breakpoints xs out hcov c p]

/-- the value clause of `bedgraphOkB`, checked at the breakpoints, holds at every position of an
output record -/
theorem bg_value_of_breakpoints (xs out : List BG)
    (hv : ∀ cp ∈ recPoints (xs.map BG.toRec) ++ recPoints (out.map BG.toRec),
      ∀ o ∈ out, o.toRec.cov cp.1 cp.2 = false ∨ o.value = sumAtB xs cp.1 cp.2)
    (o : BG) (ho : o ∈ out) : ∀ p, o.start ≤ p → p < o.stop → o.value = sumAtB xs o.chrom p := by
  have hcovt : ∀ p, o.start ≤ p → p < o.stop → o.toRec.cov o.chrom p = true := by
    intro p h1 h2
    rw [Rec.cov_iff]
    exact ⟨rfl, h1, h2⟩
  have atBreak : ∀ p, o.start ≤ p → p < o.stop →
      (o.chrom, p) ∈ recPoints (xs.map BG.toRec) ++ recPoints (out.map BG.toRec) →
      o.value = sumAtB xs o.chrom p := by
    intro p h1 h2 hm
    rcases hv _ hm o ho with hf | hf
    · rw [hcovt p h1 h2] at hf; cases hf
    · exact hf
  have ownBreak : ∀ p, o.start = p → IsBreak (out.map BG.toRec) o.chrom p := by
    intro p hp
    exact ⟨o.toRec, List.mem_map_of_mem ho, rfl, Or.inl hp⟩
  intro p
  induction p with
  | zero =>
    intro h1 h2
    exact atBreak 0 h1 h2 (List.mem_append_right _ (mem_recPoints_of_break (ownBreak 0 (by omega))))
  | succ p ih =>
    intro h1 h2
    by_cases hx : IsBreak (xs.map BG.toRec) o.chrom (p + 1)
    · exact atBreak _ h1 h2 (List.mem_append_left _ (mem_recPoints_of_break hx))
    · by_cases hs : o.start = p + 1
      · exact atBreak _ h1 h2 (List.mem_append_right _ (mem_recPoints_of_break (ownBreak _ hs)))
      · rw [sumAtB_pred xs o.chrom p hx]
        exact ih (by omega) (by omega)

/-- the bedGraph checker is sound for the clauses of `C08_bedgraph` -/
theorem C08_bedgraphOkB_sound (xs out : List BG) (h : bedgraphOkB xs out = true) :
    (∀ o ∈ out, o.start < o.stop) ∧
    SortedBGs out ∧
    (∀ i (hi : i + 1 < out.length), out[i].chrom ≠ out[i+1].chrom ∨ out[i].stop ≤ out[i+1].start) ∧
    (∀ c p, coveredByBG xs c p ↔ coveredByBG out c p) ∧
    (∀ o ∈ out, ∀ p, o.toRec.mem p → o.value = sumAt xs o.chrom p) ∧
    (∀ i (hi : i + 1 < out.length), out[i].chrom = out[i+1].chrom → out[i].stop = out[i+1].start → out[i].value ≠ out[i+1].value) := by
  simp only [bedgraphOkB, Bool.and_eq_true, beq_iff_eq, List.all_eq_true, forall_mem_zip_drop_one, Bool.or_eq_true,
    decide_eq_true_eq, bne_iff_ne, ne_eq, Bool.not_eq_true', Bool.and_eq_false_iff, beq_eq_false_iff_ne] at h
  obtain ⟨⟨⟨⟨hne, hs⟩, hadj⟩, hval⟩, hcov⟩ := h
  refine ⟨hne, sortedRecsB_sound _ hs, hadj, ?_, ?_, ?_⟩
  · intro c p
    rw [← coveredByB_map_iff, ← coveredByB_map_iff,
      covered_eq_of_breakpoints _ _ (fun cp hcp => (hcov cp hcp).1) c p]
  · intro o ho p hp
    rw [← sumAtB_eq_sumAt]
    exact bg_value_of_breakpoints xs out (fun cp hcp => (hcov cp hcp).2) o ho p hp.1 hp.2
  · intro i hi e1 e2
    rcases hval i hi with (h1 | h1) | h1
    · exact absurd e1 h1
    · exact absurd e2 h1
    · exact h1

end BV
