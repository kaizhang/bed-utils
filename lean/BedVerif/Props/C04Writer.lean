import BedVerif.Model.Writer
import BedVerif.Lemmas.C09Write
import BedVerif.Props.C04
import BedVerif.Props.C09
/-!
C04, Writer side: whatever the sink does with the individual `write` calls (accept 1 byte, half, all but
one), the bytes that reach it are exactly the records' texts, each followed by LF, in order — unless a hard
error is met, and then `write_record` reports it. Composed with `C04_write_read`: what the Reader gets back
from such a sink is the records that were written.
-/
namespace BV

-- `writeFrags s (f :: fs)` is `andThenW (write_all f) fun s1 => writeFrags s1 fs`
theorem writeFrags_spec : ∀ (fs : List Bytes) (s : WStore), Wrote s (writeFrags s fs) fs.flatten
  | [], s => Wrote.nil s
  | f :: fs, s => (writeAll_wrote s f).andThen (writeFrags_spec fs _)

/-- the bytes a sequence of records puts on the wire: text, LF, text, LF, … -/
def wire (rs : List (List Bytes)) : Bytes := (rs.map (fun r => r.flatten ++ [10])).flatten

theorem wire_cons (r : List Bytes) (rs : List (List Bytes)) :
    wire (r :: rs) = (r ++ [[10]]).flatten ++ wire rs := by
  rw [List.flatten_append]; rfl

theorem writerWrite_spec : ∀ (rs : List (List Bytes)) (s : WStore), Wrote s (writerWrite s rs) (wire rs)
  | [], s => Wrote.nil s
  | r :: rs, s => wire_cons r rs ▸ (writeFrags_spec (r ++ [[10]]) s).andThen (writerWrite_spec rs _)

/-- a sink that never reports a hard error, however short its writes: every `write_record` succeeds and the
sink holds exactly the records' lines, in order -/
theorem C04_writer_any_sink (plan : List WFault) (h : NoHardW plan) (rs : List (List Bytes)) :
    (writerWrite ⟨[], plan⟩ rs).1 = .ok () ∧ (writerWrite ⟨[], plan⟩ rs).2.data = wire rs :=
  have := (writerWrite_spec rs ⟨[], plan⟩).ok_of_noHard h
  ⟨this.1, this.2.1⟩

/-- under ANY plan: if every `write_record` reported Ok, the sink holds exactly the records' lines — a
short write is never a silently truncated line -/
theorem C04_writer_never_silent (plan : List WFault) (rs : List (List Bytes))
    (h : (writerWrite ⟨[], plan⟩ rs).1 = .ok ()) :
    (writerWrite ⟨[], plan⟩ rs).2.data = wire rs ∧ NoHardW (consumedW plan (writerWrite ⟨[], plan⟩ rs).2.plan) :=
  (writerWrite_spec rs ⟨[], plan⟩).of_ok h

theorem written_lf : ∀ ts : List Bytes, written ts [] true = (ts.map (· ++ [LF])).flatten
  | [] => rfl
  | [t] => (List.append_nil _).symm
  | t :: u :: ts => show t ++ term false ++ written (u :: ts) [] true = _ by rw [written_lf (u :: ts)]; rfl

theorem wire_eq_written (rs : List (List Bytes)) : wire rs = written (rs.map List.flatten) [] true := by
  rw [written_lf, List.map_map]; rfl

/-- Writer → (any sink without hard errors) → Reader: the records come back equal, in the same order and
number, whatever fragments `Display` produced and however short the sink's writes were -/
theorem C04_writer_sink_reader (fc : FloatCodec F) (hfc : fc.Lawful) (ty : Ty) (xs : List (TRec F))
    (hwf : ∀ x ∈ xs, WF fc ty x ∧ showT fc ty x ≠ [])
    (pfx : Option Bytes) (hp : ∀ p, pfx = some p → ∀ x ∈ xs, isPrefix p (showT fc ty x) = false)
    (hutf : ∀ x ∈ xs, ∀ t, utf8Valid (showT fc ty x ++ t) = utf8Valid t)
    (frags : List (List Bytes)) (hfr : frags.map List.flatten = xs.map (showT fc ty))
    (plan : List WFault) (hplan : NoHardW plan) :
    readAll (parseT fc ty) pfx (writerWrite ⟨[], plan⟩ frags).2.data = xs.map .record := by
  rw [(C04_writer_any_sink plan hplan frags).2, wire_eq_written, hfr]
  exact C04_write_read fc hfc ty xs hwf pfx hp hutf [] true

/-- non-vacuity: two records in three fragments each, a sink that takes one byte, then two, then everything -/
example : (writerWrite ⟨[], [.accept 1, .accept 2, .accept 1]⟩ [[[99], [9], [49, 9, 50]], [[100]]]).2.data
    = [99, 9, 49, 9, 50, 10, 100, 10] := by decide
example : (writerWrite ⟨[], [.accept 1, .fail]⟩ [[[99, 104]]]).1 = .err := by decide

end BV
