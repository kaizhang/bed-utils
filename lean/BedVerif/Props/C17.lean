import BedVerif.Lemmas.LapperInv
import BedVerif.Lemmas.LapperSeek
/-!
# C17 — cursor-based seek agrees with find on ascending queries

For every interval set reachable by an operation history (arbitrary intervals, even `start > stop`:
`seekAll_run`, `seekAll_run_eq_find`; the hypotheses `h`, `hn` of the `C17_` statements are not
needed) and every finite sequence of queries with non-decreasing start issued through one cursor
that began at 0, each `seek` returns exactly what `find` returns.
All index reads of the model's `seek` are guarded (`arr[i]?`) exactly where the Rust guards them
with `cursor < len` / `cursor + 1 < len`, so no out-of-range access exists in the model; the
correspondence check observes the absence of a panic in the implementation.
-/
namespace BV
variable {α : Type}

theorem seekAll_run (l : List (Iv α)) (ops : List (Op α))
    (qs : List (Nat × Nat)) (hasc : qs.Pairwise (fun a b => a.1 ≤ b.1)) :
    seekAll (Lapper.run l ops) qs 0 = qs.map (fun q => (Lapper.run l ops).intervals.toList.filter (·.ov q.1 q.2)) :=
  seekAll_zero _ (inv_run l ops).sortedStart (inv_run l ops).maxLen_ge qs hasc

theorem seekAll_run_eq_find (l : List (Iv α)) (ops : List (Op α))
    (qs : List (Nat × Nat)) (hasc : qs.Pairwise (fun a b => a.1 ≤ b.1)) :
    seekAll (Lapper.run l ops) qs 0 = qs.map (fun q => (Lapper.run l ops).find q.1 q.2) := by
  rw [seekAll_run l ops qs hasc]
  exact List.map_congr_left fun q _ => (find_run l ops q.1 q.2).symm

theorem C17_seek_eq_find (l : List (Iv α)) (ops : List (Op α)) (h : WeakIvs l ops)
    (qs : List (Nat × Nat)) (hasc : qs.Pairwise (fun a b => a.1 ≤ b.1)) :
    seekAll (Lapper.run l ops) qs 0 = qs.map (fun q => (Lapper.run l ops).find q.1 q.2) :=
  seekAll_run_eq_find l ops qs hasc

theorem C17_seek_eq_find_nomerge (l : List (Iv α)) (ops : List (Op α)) (hn : NoMerge ops)
    (qs : List (Nat × Nat)) (hasc : qs.Pairwise (fun a b => a.1 ≤ b.1)) :
    seekAll (Lapper.run l ops) qs 0 = qs.map (fun q => (Lapper.run l ops).find q.1 q.2) :=
  seekAll_run_eq_find l ops qs hasc

/-- each result is exactly the overlapping stored intervals, in storage order -/
theorem C17_seek_eq_filter (l : List (Iv α)) (ops : List (Op α)) (h : WeakIvs l ops)
    (qs : List (Nat × Nat)) (hasc : qs.Pairwise (fun a b => a.1 ≤ b.1)) :
    seekAll (Lapper.run l ops) qs 0 = qs.map (fun q => (Lapper.run l ops).intervals.toList.filter (·.ov q.1 q.2)) :=
  seekAll_run l ops qs hasc

/-- non-vacuity: repeated query, jump past the last interval, query before the first -/
example : ([(3, 4), (3, 9), (3, 4), (500, 501)] : List (Nat × Nat)).Pairwise (fun a b => a.1 ≤ b.1) := by decide
example : seekAll (Lapper.new [(⟨5, 50, ()⟩ : Iv Unit), ⟨6, 7, ()⟩, ⟨8, 9, ()⟩]) [(3, 4), (6, 9), (6, 7), (500, 501)] 0
    = [[], [⟨5, 50, ()⟩, ⟨6, 7, ()⟩, ⟨8, 9, ()⟩], [⟨5, 50, ()⟩, ⟨6, 7, ()⟩], []] := by decide

end BV
