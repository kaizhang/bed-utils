import BedVerif.Props.C02
/-!
# C11 — indexed region sets keep positional identity

`GIntervalIndexSet` / `GIntervalIndexMap` built from a sequence: element `i` is the `i`-th supplied
region / value, `len` is the sequence length, `get` beyond it is `none`; a query returns exactly
the positions (resp. the `i`-th values) whose region overlaps the query on the same chromosome,
once per occurrence. All of it is read off `findFull_perm`, an instance of the map-level invariant of C02
(`Loaded`).
-/
namespace BV

theorem C11_get (xs : List Rec) (i : Nat) : (IndexSet.fromIter xs).get i = xs[i]? := rfl
theorem C11_len (xs : List Rec) : (IndexSet.fromIter xs).len = xs.length := rfl
theorem C11_get_none (xs : List Rec) (i : Nat) (h : xs.length ≤ i) : (IndexSet.fromIter xs).get i = none :=
  List.getElem?_eq_none h

theorem findFull_perm (xs : List Rec) (q : Rec) :
    ((IndexSet.fromIter xs).findFull q).Perm ((enumFrom 0 xs).filter (fun x => x.1.ov q)) :=
  (loaded_fromIter (enumFrom 0 xs)).find_perm q

/-- positions returned by a query: exactly the `i` whose region overlaps the query on the same
chromosome, each occurrence once -/
theorem C11_findIndexOf_perm (xs : List Rec) (q : Rec) :
    ((IndexSet.fromIter xs).findIndexOf q).Perm ((List.range xs.length).filter (fun i => (xs.getD i default).ov q)) := by
  refine ((findFull_perm xs q).map (·.2)).trans ?_
  rw [enumFrom_eq_range, List.filter_map, List.map_map]
  exact .of_eq (List.map_id' _)

/-- `find_full` pairs every reported position with the region stored at that position -/
theorem C11_findFull (xs : List Rec) (q : Rec) :
    ∀ x ∈ (IndexSet.fromIter xs).findFull q, xs[x.2]? = some x.1 := fun x hx =>
  mem_enumFrom0 xs x (List.mem_filter.mp ((findFull_perm xs q).mem_iff.mp hx)).1

theorem C11_find (xs : List Rec) (q : Rec) :
    ((IndexSet.fromIter xs).find q).Perm (xs.filter (·.ov q)) := by
  refine ((findFull_perm xs q).map (·.1)).trans (.of_eq ?_)
  rw [← enumFrom_map_fst 0 xs, List.filter_map, enumFrom_map_fst]
  rfl

theorem C11_isOverlapped (xs : List Rec) (q : Rec) :
    (IndexSet.fromIter xs).isOverlapped q = true ↔ ∃ r ∈ xs, r.ov q = true := by
  rw [IndexSet.isOverlapped, ← List.isEmpty_map (f := (·.1)), ← IndexSet.find, (C11_find xs q).isEmpty_eq]
  simp

theorem filterMap_eq_map_of {β γ : Type} (l : List β) (g : β → Option γ) (f : β → γ)
    (h : ∀ x ∈ l, g x = some (f x)) : l.filterMap g = l.map f := by
  induction l with
  | nil => rfl
  | cons x l ih =>
    obtain ⟨hx, hl⟩ := List.forall_mem_cons.mp h
    rw [List.filterMap_cons, hx, List.map_cons, ih hl]

def lookup {δ : Type} (data : List δ) (x : Rec × Nat) : Option (Rec × δ) :=
  (data[x.2]?).map (fun d => (x.1, d))

theorem IndexMap.find_ok {δ : Type} (s : IndexMap δ) (q : Rec)
    (h : ∀ x ∈ GMap.find s.indices q, x.2 < s.data.length) :
    s.find q = .ok ((GMap.find s.indices q).filterMap (lookup s.data)) := by
  unfold IndexMap.find
  generalize GMap.find s.indices q = F at h ⊢
  induction F with
  | nil => rfl
  | cons x F ih =>
    obtain ⟨hx, hF⟩ := List.forall_mem_cons.mp h
    rw [List.foldr_cons, ih hF, List.filterMap_cons, lookup, List.getElem?_eq_getElem hx]
    rfl

/-- looking the positions of the overlapping regions up again gives back the overlapping entries -/
theorem filterMap_lookup_enum {δ : Type} (xs : List (Rec × δ)) (p : Rec → Bool) :
    ((enumFrom 0 (xs.map (·.1))).filter (fun x => p x.1)).filterMap (lookup (xs.map (·.2))) =
      xs.filter (fun x => p x.1) := by
  have hg : ∀ e ∈ enumFrom 0 xs, (lookup (xs.map (·.2)) ∘ fun e => (e.1.1, e.2)) e = some e.1 := fun e he => by
    simp [lookup, List.getElem?_map, mem_enumFrom0 xs e he]
  rw [enumFrom_map, List.filter_map, List.filterMap_map,
    filterMap_eq_map_of _ _ _ fun e he => hg e (List.mem_filter.mp he).1]
  conv => rhs; rw [← enumFrom_map_fst 0 xs, List.filter_map]
  rfl

/-- `GIntervalIndexMap::find` never indexes out of range and returns the i-th values -/
theorem C11_map_find {δ : Type} (xs : List (Rec × δ)) (q : Rec) :
    ∃ out, (IndexMap.fromIter xs).find q = .ok out ∧ out.Perm (xs.filter (·.1.ov q)) := by
  have hF := findFull_perm (xs.map (·.1)) q
  refine ⟨_, IndexMap.find_ok _ q fun x hx => ?_, ?_⟩
  · obtain ⟨hlt, _⟩ := List.getElem?_eq_some_iff.mp (C11_findFull (xs.map Prod.fst) q x hx)
    rw [List.length_map] at hlt
    exact (List.length_map (as := xs) _).symm ▸ hlt
  · exact (hF.filterMap _).trans (.of_eq (filterMap_lookup_enum xs (·.ov q)))

theorem C11_map_get {δ : Type} (xs : List (Rec × δ)) (i : Nat) :
    (IndexMap.fromIter xs).get i = (xs[i]?).map (·.2) ∧ (IndexMap.fromIter xs).len = xs.length :=
  ⟨List.getElem?_map .., List.length_map ..⟩

/-- witness: interleaved chromosomes, a duplicated region reported once per occurrence with its own
position -/
example : (IndexSet.fromIter [⟨[2], 5, 9⟩, ⟨[1], 0, 4⟩, ⟨[2], 5, 9⟩, ⟨[2], 9, 12⟩]).findIndexOf ⟨[2], 8, 9⟩ = [0, 2] := by decide

end BV
