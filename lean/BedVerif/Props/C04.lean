import BedVerif.Spec.Text
import BedVerif.Props.C03
import BedVerif.Lemmas.C04Lines
import BedVerif.Lemmas.C04Strip
import BedVerif.Lemmas.C04Frag
/-!
# C04 — Reader and Writer preserve a record stream line for line

`items` / `readAll` model the iterators `Records` and `IntoRecords` (one loop over the same reader
state; after the repair a skipped line continues the loop instead of recursing); `specItems` is
the line-level specification. The stack clause (any number of consecutive skipped lines) is a
runtime fact: the model is a loop, and the tie to the code for that clause is the child-process
run of the correspondence check on a 256 KiB stack.
-/
namespace BV
variable {F β : Type}

/-- the raw lines of a stream: they concatenate to the stream, none is empty, every line but possibly
the last ends with LF, and LF occurs nowhere else in a line -/
theorem C04_rawLines (input : Bytes) :
    (rawLines (input.length + 1) input).flatten = input ∧
    (∀ l ∈ rawLines (input.length + 1) input, l ≠ [] ∧ LF ∉ l.dropLast) ∧
    (∀ l ∈ (rawLines (input.length + 1) input).dropLast, l.getLast? = some LF) :=
  lines_spec input

/-- the reader yields exactly one item per input line that is not skipped, in order — the record
for a well-formed line, an error for a malformed one, never a silent drop — then ends -/
theorem C04_items_spec (parse : Bytes → Outcome PErr β) (pfx : Option Bytes) (input : Bytes) :
    readAll parse pfx input = specItems parse pfx input :=
  items_eq_filterMap parse pfx _ input

/-- … and stays ended -/
theorem C04_stays_ended (parse : Bytes → Outcome PErr β) (pfx : Option Bytes) (n : Nat) :
    items parse pfx n [] = [] := by
  cases n <;> rfl

/-- one terminator choice per line: LF or CRLF -/
def term (crlf : Bool) : Bytes := if crlf then [CR, LF] else [LF]

/-- a stream written line by line: each record's text followed by LF or CRLF; the last line may be
left unterminated -/
def written (texts : List Bytes) (crlf : List Bool) (lastTerminated : Bool) : Bytes :=
  match texts, crlf with
  | [], _ => []
  | [t], c :: _ => if lastTerminated then t ++ term c else t
  | [t], [] => if lastTerminated then t ++ term false else t
  | t :: ts, c :: cs => t ++ term c ++ written ts cs lastTerminated
  | t :: ts, [] => t ++ term false ++ written ts [] lastTerminated

theorem written_nil (crlf : List Bool) (lt : Bool) : written [] crlf lt = [] := by
  cases crlf <;> rfl

theorem written_single (t : Bytes) (crlf : List Bool) (lt : Bool) :
    written [t] crlf lt = if lt then t ++ term (crlf.head?.getD false) else t := by
  cases crlf <;> rfl

theorem written_cons (t u : Bytes) (ts : List Bytes) (crlf : List Bool) (lt : Bool) :
    written (t :: u :: ts) crlf lt = t ++ term (crlf.head?.getD false) ++ written (u :: ts) crlf.tail lt := by
  cases crlf <;> rfl

theorem lines_term {t : Bytes} (h : LF ∉ t) (c : Bool) (rest : Bytes) :
    lines (t ++ term c ++ rest) = (t ++ term c) :: lines rest := by
  cases c
  · exact (List.append_assoc t [LF] rest).symm ▸ lines_LF h rest
  · have h' : LF ∉ t ++ [CR] := by simpa [LF, CR] using h
    simpa [term] using lines_LF h' rest

/-- the general write/read lemma: any texts that classify to the intended items, terminated or not -/
theorem readAll_written {α : Type} (parse : Bytes → Outcome PErr β) (pfx : Option Bytes)
    (sh : α → Bytes) (g : α → RItem β) (xs : List α)
    (h : ∀ x ∈ xs, sh x ≠ [] ∧ LF ∉ sh x ∧ classifyLine parse pfx (sh x) = some (g x) ∧
      ∀ c, classifyLine parse pfx (sh x ++ term c) = some (g x)) :
    ∀ (crlf : List Bool) (lt : Bool),
      (lines (written (xs.map sh) crlf lt)).filterMap (classifyLine parse pfx) = xs.map g := by
  induction xs with
  | nil => intro crlf lt; rw [List.map_nil, written_nil]; rfl
  | cons x xs ih =>
    intro crlf lt
    obtain ⟨hne, hlf, hc1, hc2⟩ := h x List.mem_cons_self
    cases xs with
    | nil =>
      rw [List.map_cons, List.map_nil, written_single]
      cases lt
      · simp only [Bool.false_eq_true, ↓reduceIte, lines_of_not_mem hlf hne, List.filterMap_cons, hc1]; rfl
      · have := lines_term hlf (crlf.head?.getD false) []
        rw [List.append_nil] at this
        simp only [↓reduceIte, this, List.filterMap_cons, hc2]; rfl
    | cons y ys =>
      have ih' := ih (fun z hz => h z (List.mem_cons_of_mem _ hz)) crlf.tail lt
      rw [List.map_cons] at ih' ⊢
      rw [List.map_cons, written_cons, lines_term hlf, List.filterMap_cons, hc2, ih']; rfl

theorem classifyLine_record (parse : Bytes → Outcome PErr β) (pfx : Option Bytes) (raw t : Bytes) (b : β)
    (hu : utf8Valid raw = true) (hs : stripEol raw = t)
    (hpx : ∀ p, pfx = some p → isPrefix p t = false) (hrt : parse t = .ok b) :
    classifyLine parse pfx raw = some (.record b) := by
  unfold classifyLine
  cases pfx with
  | none => simp only [hu, hs, hrt, Bool.not_true, Bool.false_eq_true, ↓reduceIte]
  | some p => simp only [hu, hs, hrt, hpx p rfl, Bool.not_true, Bool.false_eq_true, ↓reduceIte]

theorem utf8Valid_term (c : Bool) : utf8Valid (term c) = true := by
  cases c <;> decide

/-- records written with the Writer and read back with the Reader come back equal, in the same
order and number, whether lines end in LF or CRLF and whether or not the last line is terminated
(no skip prefix, or a prefix no record text starts with) -/
theorem C04_write_read (fc : FloatCodec F) (hfc : fc.Lawful) (ty : Ty) (xs : List (TRec F))
    (hwf : ∀ x ∈ xs, WF fc ty x ∧ showT fc ty x ≠ [])
    (pfx : Option Bytes) (hp : ∀ p, pfx = some p → ∀ x ∈ xs, isPrefix p (showT fc ty x) = false)
    (hutf : ∀ x ∈ xs, ∀ t, utf8Valid (showT fc ty x ++ t) = utf8Valid t)
    (crlf : List Bool) (lastTerminated : Bool) :
    readAll (parseT fc ty) pfx (written (xs.map (showT fc ty)) crlf lastTerminated) = xs.map .record := by
  rw [readAll_eq_lines]
  apply readAll_written (parseT fc ty) pfx (showT fc ty) RItem.record xs
  intro x hx
  obtain ⟨hw, hne⟩ := hwf x hx
  obtain ⟨hlf, hcr⟩ := C03_single_line fc hfc ty x hw
  have hcls : ∀ e, utf8Valid e = true → stripEol (showT fc ty x ++ e) = showT fc ty x →
      classifyLine (parseT fc ty) pfx (showT fc ty x ++ e) = some (.record x) :=
    fun e hu hs => classifyLine_record _ pfx _ _ x ((hutf x hx e).trans hu) hs (fun p hpf => hp p hpf x hx)
      (C03_roundtrip fc hfc ty x hw)
  refine ⟨hne, hlf, ?_, fun c => hcls _ (utf8Valid_term c) ?_⟩
  · have := hcls [] rfl
    rw [List.append_nil] at this
    exact this (stripEol_of_not_mem hlf)
  · cases c
    · exact stripEol_lf hcr
    · exact stripEol_crlf _

/-- comment lines (skip prefix followed by anything without LF) inserted anywhere are dropped and
nothing else changes -/
theorem C04_comments_skipped (parse : Bytes → Outcome PErr β) (p body pre post : Bytes)
    (hp : p ≠ []) (hcr : CR ∉ p) (hb : LF ∉ p ++ body) (hu : utf8Valid (p ++ body ++ [LF]) = true)
    (hpre : pre = [] ∨ pre.getLast? = some LF) :
    readAll parse (some p) (pre ++ (p ++ body ++ [LF]) ++ post) = readAll parse (some p) (pre ++ post) := by
  have _ := hp  -- not needed: with `p = []` every line is skipped, the comment too
  have hcls : classifyLine parse (some p) (p ++ body ++ [LF]) = none := by
    unfold classifyLine
    simp only [hu, isPrefix_stripEol_comment p body hcr, Bool.not_true, Bool.false_eq_true, ↓reduceIte]
  have hskip : (lines (p ++ body ++ [LF] ++ post)).filterMap (classifyLine parse (some p)) =
      (lines post).filterMap (classifyLine parse (some p)) := by
    rw [List.append_assoc (p ++ body), List.singleton_append, lines_LF hb, List.filterMap_cons, hcls]
  rw [readAll_eq_lines, readAll_eq_lines, List.append_assoc, lines_append hpre, lines_append hpre,
    List.filterMap_append, List.filterMap_append, hskip]

/-- however the underlying byte source fragments its reads (no empty read before the end,
`Interrupted` errors anywhere), `read_until` returns the same line and leaves the same rest -/
theorem C04_fragmentation (src : List Chunk) (h : NoEmptyData src) :
    let r := readUntilLF ((flattenChunks src).length + src.length + 1) src []
    r.1 = (takeLine (flattenChunks src)).1 ∧ flattenChunks r.2 = (takeLine (flattenChunks src)).2 ∧ NoEmptyData r.2 :=
  readUntilLF_spec src _ [] (by omega) h

/-- witness: CRLF, an unterminated last line, a comment, a blank line (an error, not a drop) -/
example : (readAll (parseT (F := Nat) ⟨fun _ => none, fun _ => [], fun _ => false, 0, fun _ => false⟩ (.bed 3)) (some [35])
    [99, 9, 49, 9, 50, 13, 10, 35, 120, 10, 10, 99, 9, 51, 9, 52]).map (fun | .record r => (r.start, r.stop) | _ => (0, 0))
    = [(1, 2), (0, 0), (3, 4)] := by decide +kernel

end BV
