import BedVerif.Props.C08
import BedVerif.Lemmas.FastBedgraph
/-!
C08, large inputs: the output the driver compares `merge_sorted_bedgraph` with on inputs of 10^4–10^5 records —
`fastBedgraph'` (per chromosome: merge sorts of the endpoints and of the weighted events, one linear sweep carrying the running
coverage count and the running sum, fusion of touching equal-valued neighbours) — is THE list satisfying the six clauses of the
specification (`BedgraphSpec` = the clauses of `C08_bedgraph`): a list satisfies them exactly when it equals `fastBedgraph' xs`.
-/
namespace BV

theorem C08_bedgraphSpec_unique (xs out₁ out₂ : List BG) (h₁ : BedgraphSpec xs out₁) (h₂ : BedgraphSpec xs out₂) : out₁ = out₂ :=
  bedgraphSpec_unique xs out₁ out₂ h₁ h₂
theorem C08_bedgraphSpec_iff_eq_model (xs out : List BG) (hs : SortedBGs xs) (hne : ∀ b ∈ xs, b.start < b.stop) :
    BedgraphSpec xs out ↔ mergeSortedBedgraph xs = .ok out := by
  obtain ⟨o, ho, hspec⟩ := C08_bedgraph xs hs hne
  constructor
  · intro h
    rw [ho, bedgraphSpec_unique xs out o h hspec]
  · intro h
    rw [ho] at h
    cases h
    exact hspec
theorem C08_bedgraphSpec_iff_eq_fast (xs out : List BG) (hs : SortedBGs xs) (hne : ∀ b ∈ xs, b.start < b.stop) :
    BedgraphSpec xs out ↔ out = fastBedgraph' xs := bedgraphSpec_iff_eq_fast' xs out hs hne

theorem mergeSortedBedgraph_eq_fast (xs : List BG) (hs : SortedBGs xs) (hne : ∀ b ∈ xs, b.start < b.stop) :
    mergeSortedBedgraph xs = .ok (fastBedgraph' xs) :=
  (C08_bedgraphSpec_iff_eq_model xs _ hs hne).mp (fastBedgraph'_spec xs hs hne)

/-! `decide` cannot evaluate `List.mergeSort`, so the values are obtained through the theorems: the model
is evaluated by the kernel and `mergeSortedBedgraph_eq_fast` transfers the value. The compiled
definition gives the same values (`#guard`). -/

theorem fast_of_model {xs out : List BG} (hs : SortedBGs xs) (hne : ∀ b ∈ xs, b.start < b.stop)
    (h : mergeSortedBedgraph xs = .ok out) : fastBedgraph' xs = out := by
  have := (mergeSortedBedgraph_eq_fast xs hs hne).symm.trans h
  cases this
  rfl

/-- a covered stretch of sum 0 IS an output record -/
example : fastBedgraph' [⟨[], 0, 10, 1⟩, ⟨[], 0, 10, -1⟩] = [⟨[], 0, 10, 0⟩] :=
  fast_of_model (by unfold SortedBGs; decide) (by decide) (by decide +kernel)
example : fastBedgraph' [⟨[], 0, 10, -2⟩, ⟨[], 0, 12, 3⟩] = [⟨[], 0, 10, 1⟩, ⟨[], 10, 12, 3⟩] :=
  fast_of_model (by unfold SortedBGs; decide) (by decide) (by decide +kernel)
/-- two chromosomes, a gap, touching runs of equal sum fused, a run of sum 0 between two others -/
example : fastBedgraph' [⟨[1], 0, 5, 2⟩, ⟨[1], 5, 9, 2⟩, ⟨[1], 20, 30, 4⟩, ⟨[1], 22, 25, -4⟩, ⟨[2], 3, 4, 7⟩]
    = [⟨[1], 0, 9, 2⟩, ⟨[1], 20, 22, 4⟩, ⟨[1], 22, 25, 0⟩, ⟨[1], 25, 30, 4⟩, ⟨[2], 3, 4, 7⟩] :=
  fast_of_model (by unfold SortedBGs; decide) (by decide) (by decide +kernel)

#guard mergeSortedBedgraph [⟨[1], 0, 5, 2⟩, ⟨[1], 5, 9, 2⟩, ⟨[1], 20, 30, 4⟩, ⟨[1], 22, 25, -4⟩, ⟨[2], 3, 4, 7⟩]
    = .ok (fastBedgraph' [⟨[1], 0, 5, 2⟩, ⟨[1], 5, 9, 2⟩, ⟨[1], 20, 30, 4⟩, ⟨[1], 22, 25, -4⟩, ⟨[2], 3, 4, 7⟩])

#print axioms mergeSortedBedgraph_eq_fast
end BV
