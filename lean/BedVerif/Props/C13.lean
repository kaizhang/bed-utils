import BedVerif.Lemmas.RecBasic
/-!
# C13 — overlap, length and ordering of records follow half-open set semantics

`Rec` is the `BEDLike` view (chrom, start, end) every record type exposes; `u64` is `Nat` — only
comparison, `max`/`min` and saturating subtraction occur, so the statements hold up to `u64::MAX`.
-/
namespace BV

theorem C13_overlap_some_iff (a b : Rec) :
    (Rec.overlap a b).isSome ↔ a.chrom = b.chrom ∧ ∃ p, a.mem p ∧ b.mem p := by
  rw [overlap_eq, Rec.exists_mem_iff]
  split
  · exact ⟨fun _ => ‹_›, fun _ => rfl⟩
  · exact ⟨nofun, fun h => absurd h ‹_›⟩

theorem C13_overlap_positions (a b g : Rec) (h : Rec.overlap a b = some g) :
    g = ⟨a.chrom, max a.start b.start, min a.stop b.stop⟩ ∧ ∀ p, g.mem p ↔ a.mem p ∧ b.mem p := by
  rw [overlap_eq] at h
  split at h
  · cases h
    exact ⟨rfl, fun p => (Rec.mem_and_mem_iff a b p).symm⟩
  · cases h

/-- symmetric (the chromosome of the result is the common one) -/
theorem C13_overlap_comm (a b : Rec) : Rec.overlap a b = Rec.overlap b a := by
  rw [overlap_eq, overlap_eq, Nat.max_comm a.start, Nat.min_comm a.stop]
  by_cases hc : a.chrom = b.chrom
  · simp [hc]
  · have : ¬ b.chrom = a.chrom := fun e => hc e.symm
    simp [hc, this]

/-- `n_overlap` is the number of shared positions (all of which lie below `min a.stop b.stop`) -/
theorem C13_nOverlap_card (a b : Rec) :
    Rec.nOverlap a b = if a.chrom = b.chrom then ((List.range (min a.stop b.stop)).filter (fun p => decide (a.mem p ∧ b.mem p))).length else 0 := by
  rw [nOverlap_eq]
  split
  · -- below `min a.stop b.stop` a position is shared iff it is at or after both starts
    rw [← count_ge_range]
    congr 1
    refine List.filter_congr fun p hp => decide_eq_decide.mpr ?_
    rw [Rec.mem_and_mem_iff]
    exact ⟨fun h => ⟨h, List.mem_range.mp hp⟩, fun h => h.1⟩
  · rfl

theorem C13_nOverlap_comm (a b : Rec) : Rec.nOverlap a b = Rec.nOverlap b a := by
  unfold Rec.nOverlap; rw [C13_overlap_comm]

/-- 0 when disjoint or merely adjacent -/
theorem C13_nOverlap_adjacent (a b : Rec) (h : a.stop ≤ b.start) : Rec.nOverlap a b = 0 := by
  rw [nOverlap_eq]; split <;> omega

theorem C13_len (a : Rec) : a.blen = a.stop - a.start ∧ (a.stop < a.start → a.blen = 0) := by
  unfold Rec.blen; omega

/-- `len` is the number of positions of the record -/
theorem C13_len_card (a : Rec) : a.blen = ((List.range a.stop).filter (fun p => decide (a.mem p))).length := by
  rw [Rec.blen, ← count_ge_range]
  congr 1
  refine List.filter_congr fun p hp => decide_eq_decide.mpr ?_
  exact ⟨fun h => ⟨h, List.mem_range.mp hp⟩, fun h => h.1⟩

theorem C13_compare_refl (a : Rec) : Rec.compare a a = .eq := Std.ReflCmp.compare_self

theorem C13_compare_eq_iff (a b : Rec) : Rec.compare a b = .eq ↔ a = b := by
  simp only [Rec.compare, Ordering.then_eq_eq, cmpBytes_eq_iff, Nat.compare_eq_eq]
  cases a; cases b; simp

theorem C13_compare_swap (a b : Rec) : Rec.compare a b = (Rec.compare b a).swap := Std.OrientedCmp.eq_swap

theorem C13_compare_trans (a b c : Rec) (h₁ : Rec.compare a b ≠ .gt) (h₂ : Rec.compare b c ≠ .gt) : Rec.compare a c ≠ .gt :=
  Ordering.isLE_iff_ne_gt.mp
    (Std.TransCmp.isLE_trans (Ordering.isLE_iff_ne_gt.mpr h₁) (Ordering.isLE_iff_ne_gt.mpr h₂))

theorem C13_compare_lt_trans (a b c : Rec) (h₁ : Rec.compare a b = .lt) (h₂ : Rec.compare b c = .lt) : Rec.compare a c = .lt :=
  Std.TransCmp.lt_trans h₁ h₂

/-- `compare` is the order by chromosome name (byte-lexicographic), then start, then end -/
theorem C13_compare_lex (a b : Rec) :
    Rec.compare a b = .lt ↔ (cmpBytes a.chrom b.chrom = .lt ∨ (a.chrom = b.chrom ∧ (a.start < b.start ∨ (a.start = b.start ∧ a.stop < b.stop)))) :=
  Rec.compare_eq_lt_iff a b

/-- `cmpBytes` is the lexicographic order on byte strings -/
theorem C13_cmpBytes_lt_iff (x y : Bytes) : cmpBytes x y = .lt ↔ x < y := cmpBytes_lt_iff x y

/-- witnesses: adjacent records share nothing; one-base overlap; nested; different chromosome -/
example : Rec.overlap ⟨[1], 0, 5⟩ ⟨[1], 5, 9⟩ = none ∧ Rec.nOverlap ⟨[1], 0, 5⟩ ⟨[1], 4, 9⟩ = 1 ∧
    Rec.overlap ⟨[1], 0, 9⟩ ⟨[1], 2, 3⟩ = some ⟨[1], 2, 3⟩ ∧ Rec.overlap ⟨[1], 0, 9⟩ ⟨[1, 0], 2, 3⟩ = none := by decide

end BV
