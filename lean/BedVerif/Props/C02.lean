import BedVerif.Lemmas.GMapFind
/-!
# C02 — genomic interval lookup returns exactly the overlapping records

Lapper level: for every history of `new` / `insert` / `set_cov` over *arbitrary* intervals
(zero-length and even `start > stop` included; coordinates are unbounded naturals, and only
comparison and saturating subtraction occur, so the statements hold verbatim up to `u64::MAX`),
`find` returns exactly the stored intervals that overlap the query — as a sublist of the stored
intervals, hence each stored record once, with its own value — and the stored intervals are a
permutation of the records supplied by the history.
-/
namespace BV
variable {α : Type}

/-- `find` = the overlapping stored intervals, in storage order (no hypothesis on the query) -/
theorem C02_find_eq_filter (l : List (Iv α)) (ops : List (Op α)) (hn : NoMerge ops) (qs qe : Nat) :
    (Lapper.run l ops).find qs qe = (Lapper.run l ops).intervals.toList.filter (·.ov qs qe) :=
  find_run l ops qs qe

/-- the structure holds every supplied record exactly once -/
theorem C02_intervals_perm (l : List (Iv α)) (ops : List (Op α)) (hn : NoMerge ops) :
    (Lapper.run l ops).intervals.toList.Perm (recordsOf l ops) := (inv_run_nomerge l ops hn).2

/-- hence `find` is a permutation of the supplied records that overlap the query -/
theorem C02_find_perm_records (l : List (Iv α)) (ops : List (Op α)) (hn : NoMerge ops) (qs qe : Nat) :
    ((Lapper.run l ops).find qs qe).Perm ((recordsOf l ops).filter (·.ov qs qe)) := by
  rw [C02_find_eq_filter l ops hn]
  exact (C02_intervals_perm l ops hn).filter _

/-- the same holds after merges for intervals with `start ≤ stop` (for the merged content) -/
theorem C02_find_eq_filter_weak (l : List (Iv α)) (ops : List (Op α)) (h : WeakIvs l ops) (qs qe : Nat) :
    (Lapper.run l ops).find qs qe = (Lapper.run l ops).intervals.toList.filter (·.ov qs qe) :=
  find_run l ops qs qe

/-! ## Map level (`GIntervalMap`): `from_iter` followed by any inserts -/

/-- `iter` accounts for every loaded record exactly once -/
theorem C02_iter_perm (bulk ins : List (Rec × α)) : (GMap.iter (GMap.build bulk ins)).Perm (bulk ++ ins) :=
  (loaded_build bulk ins).perm

theorem C02_len (bulk ins : List (Rec × α)) : GMap.len (GMap.build bulk ins) = (bulk ++ ins).length := by
  rw [len_eq_iter_length]
  exact (C02_iter_perm bulk ins).length_eq

/-- C02 at map level: the result is a permutation of the loaded records that overlap the query on
its chromosome (`specFind`), each once with its own value -/
theorem C02_gfind_perm (bulk ins : List (Rec × α)) (q : Rec) :
    (GMap.find (GMap.build bulk ins) q).Perm (specFind (bulk ++ ins) q) :=
  (loaded_build bulk ins).find_perm q

theorem C02_isOverlapped (bulk ins : List (Rec × α)) (q : Rec) :
    GMap.isOverlapped (GMap.build bulk ins) q = true ↔ specFind (bulk ++ ins) q ≠ [] := by
  rw [GMap.isOverlapped, (C02_gfind_perm bulk ins q).isEmpty_eq]
  simp

/-- never a record from another chromosome -/
theorem C02_same_chrom (bulk ins : List (Rec × α)) (q : Rec) :
    ∀ x ∈ GMap.find (GMap.build bulk ins) q, x.1.chrom = q.chrom := by
  intro x hx
  have := (List.mem_filter.mp ((C02_gfind_perm bulk ins q).mem_iff.mp hx)).2
  simp only [Rec.ov, Bool.and_eq_true, beq_iff_eq] at this
  exact this.1.1

/-- non-vacuity / witness: one very long interval among short ones, a zero-length one, a duplicate
with another value; query ends coincide with record boundaries -/
example : (Lapper.run [(⟨0, 100, 1⟩ : Iv Nat), ⟨40, 41, 2⟩, ⟨50, 50, 3⟩] [.insert ⟨40, 41, 4⟩, .insert ⟨41, 45, 5⟩]).find 41 50
    = [⟨0, 100, 1⟩, ⟨41, 45, 5⟩] := by decide

/-- map-level witness: two chromosomes whose names are prefixes of each other, a duplicate with its
own value, a book-ended record (not a hit) and a bulk + insert history -/
example : GMap.find (GMap.build [(⟨[1], 10, 20⟩, 0), (⟨[1, 2], 10, 20⟩, 1), (⟨[1], 20, 30⟩, 2)] [(⟨[1], 10, 20⟩, 3)]) ⟨[1], 15, 20⟩
    = [(⟨[1], 10, 20⟩, 3), (⟨[1], 10, 20⟩, 0)] := by decide

end BV
