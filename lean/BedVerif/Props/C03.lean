import BedVerif.Spec.Text
import BedVerif.Lemmas.C03Round
/-!
# C03 — BED text formats round-trip and follow the standard column layout

Text is bytes; `lexical::parse` / `Display` of integers are modelled concretely and their round
trip is proved; the `f64` text codec of std is an arbitrary `FloatCodec` assumed `Lawful` (parse ∘ render
= id on non-NaN values, no TAB/CR/LF in rendered text, `-1` renders to something that parses `< 0`).
`WF` (Spec/Text.lean) is exactly the quantifier of the property: what the text format can carry.
-/
namespace BV
variable {F : Type}

/-- decimal text of a number parses back (this is `lexical::parse ∘ Display` for u64 / u32 / u16) -/
theorem C03_parseUnsigned_showNat (max n : Nat) (h : n ≤ max) : parseUnsigned max (showNat n) = some n :=
  C03.parseUnsigned_showNat max n h
theorem C03_showNat_digits (n : Nat) : (showNat n).all isDigit = true ∧ showNat n ≠ [] :=
  ⟨(C03.showNat_decimal n).all, (C03.showNat_decimal n).ne_nil⟩
theorem C03_parseI64_showInt (i : Int) (h : -(2^63 : Int) ≤ i ∧ i < 2^63) : parseI64 (showInt i) = some i :=
  C03.parseI64_showInt i h

/-- splitting the TAB-joined columns gives the columns back -/
theorem C03_split_intercalate (fs : List Bytes) (hne : fs ≠ []) (h : ∀ f ∈ fs, TAB ∉ f) :
    splitOn (· == TAB) (intercalate [TAB] fs) = fs :=
  C03.split_intercalate_tab fs hne h

/-- layout: `Display` of every record type is its standard-order column list joined by TAB
(chrom, start, end, then name, score, strand with `.` when absent, then the format's own columns
with `-1` for an absent p- or q-value) -/
theorem C03_layout (fc : FloatCodec F) (ty : Ty) (x : TRec F) :
    showT fc ty x = intercalate [TAB] (columnsT fc ty x) :=
  C03.layout fc ty x

/-- round trip: parsing the formatted record as the same type returns the record -/
theorem C03_roundtrip (fc : FloatCodec F) (hfc : fc.Lawful) (ty : Ty) (x : TRec F) (hwf : WF fc ty x) :
    parseT fc ty (showT fc ty x) = .ok x := by
  cases ty with
  | gr => exact C03.rt_gr fc x hwf
  | bed n => exact C03.rt_bed fc hfc n x hwf
  | narrowPeak => exact C03.rt_narrowPeak fc hfc x hwf
  | broadPeak => exact C03.rt_broadPeak fc hfc x hwf
  | bgInt => exact C03.rt_bgInt fc hfc x hwf
  | bgFloat => exact C03.rt_bgFloat fc hfc x hwf

/-- a single line -/
theorem C03_single_line (fc : FloatCodec F) (hfc : fc.Lawful) (ty : Ty) (x : TRec F) (hwf : WF fc ty x) :
    LF ∉ showT fc ty x ∧ CR ∉ showT fc ty x :=
  C03.single_line_of_clean fc hfc.clean ty x hwf.1 (C03.name_clean_of_WF hwf)

/-- `GenomicRange` also parses back the `chr:start-end` form of `pretty_show` -/
theorem C03_pretty_roundtrip (fc : FloatCodec F) (x : TRec F) (hwf : WF fc .gr x) :
    parseT fc .gr (prettyShow x) = .ok x :=
  C03.rt_gr_delims fc x hwf COLON DASH rfl rfl

/-- a score obtained by parsing is never above 1000 (larger integers are clamped) … -/
theorem C03_score_le (s : Bytes) (v : Nat) (h : parseScore s = some v) : v ≤ 1000 := by
  unfold parseScore at h
  cases hp : parseUnsigned U32MAX s with
  | none => rw [hp] at h; cases h
  | some n =>
    rw [hp] at h
    cases h
    show (if n > 1000 then 1000 else n) ≤ 1000
    split <;> omega
theorem C03_score_parse_show (n : Nat) (h : n ≤ U32MAX) : parseScore (showNat n) = some (min n 1000) :=
  C03.parseScore_showNat n h
/-- … and conversion rejects them -/
theorem C03_score_tryFrom (n v : Nat) : scoreTryFrom n = some v ↔ n ≤ 1000 ∧ v = n := by
  unfold scoreTryFrom
  split
  · simp; omega
  · simp; omega

/-- non-vacuity: a lawful codec exists (floats = naturals rendered in decimal, none negative except a
designated `-1`), and a NarrowPeak with all optional columns absent is well-formed for it -/
def natCodec : FloatCodec (Option Nat) :=
  { parse := fun s => if s = DASH :: showNat 1 then some none else (parseUnsigned (2^64) s).map some
    render := fun o => match o with | none => DASH :: showNat 1 | some n => showNat n
    ltZero := fun o => o.isNone, negOne := none, isNaN := fun o => match o with | some n => decide (n > 2^64) | none => false }
open C03 in
theorem C03_natCodec_lawful : natCodec.Lawful := by
  refine ⟨?_, ?_, ⟨rfl, rfl⟩⟩
  · intro x hx
    cases x with
    | none => simp [natCodec]
    | some n =>
      have hn : n ≤ 2^64 := by
        simp only [natCodec, decide_eq_false_iff_not] at hx; omega
      obtain ⟨c, t, hs, hc⟩ := (showNat_decimal n).head
      have hne : showNat n ≠ DASH :: showNat 1 := by
        rw [hs]
        exact fun he => isDigit_ne hc rfl (List.cons.inj he).1
      simp only [natCodec, if_neg hne, parseUnsigned_showNat _ _ hn, Option.map_some]
  · intro x
    cases x with
    | none => exact Clean_neg 1
    | some n => exact Clean_showNat n
example : WF natCodec .narrowPeak { chrom := [99], start := 0, stop := U64MAX, signal := some (some 7), peak := some 3 } := by
  refine ⟨by simp [Clean, TAB, LF, CR], by decide, by decide, ?_⟩
  refine ⟨⟨by simp, by simp, by simp, by simp, by simp⟩, ⟨some 7, rfl, by decide⟩, by simp [PvalOk], by simp [PvalOk], ⟨3, rfl, by decide⟩, rfl⟩

end BV
