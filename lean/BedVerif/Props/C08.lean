import BedVerif.Spec.Rec
import BedVerif.Lemmas.C08Lift
/-!
# C08 — bedGraph merge is the pointwise sum, run-length encoded

For every sorted sequence of non-empty bedGraph records with values in ℤ. The sort of the
breakpoints is unstable in the Rust; `C08_order_independent` shows that every position-sorted
permutation gives the same result, so modelling it by the stable insertion sort loses nothing.
Lemmas: `Lemmas/C08{Chunk,Sweep,Group,Spec,Single,Lift}.lean`.
-/
namespace BV

/-- the sort of the breakpoints is unstable in the Rust (`sorted_unstable_by_key`): the result of
the per-group sweep is the same for every position-sorted permutation of the breakpoints -/
theorem C08_order_independent (chrom : Bytes) (pts pts' : List (Nat × Int)) (hp : pts'.Perm pts)
    (hs : pts.Pairwise (fun a b => a.1 ≤ b.1)) (hs' : pts'.Pairwise (fun a b => a.1 ≤ b.1)) :
    sweepGroup chrom pts' = sweepGroup chrom pts := by
  rw [C08.sweepGroup_eq, C08.sweepGroup_eq, C08.chunkSums_perm pts pts' hp hs hs']

/-- C08: for every sorted sequence of non-empty bedGraph records with values in ℤ the output is
non-empty records, sorted, pairwise non-overlapping, covering exactly the covered positions,
carrying at every covered position the sum of the covering input values, and maximal (adjacent
output records on one chromosome differ in value). -/
theorem C08_bedgraph (xs : List BG) (hs : SortedBGs xs) (hne : ∀ b ∈ xs, b.start < b.stop) :
    ∃ out, mergeSortedBedgraph xs = .ok out ∧
      (∀ o ∈ out, o.start < o.stop) ∧
      SortedBGs out ∧
      (∀ i (h : i + 1 < out.length), out[i].chrom ≠ out[i+1].chrom ∨ out[i].stop ≤ out[i+1].start) ∧
      (∀ c p, coveredByBG xs c p ↔ coveredByBG out c p) ∧
      (∀ o ∈ out, ∀ p, o.toRec.mem p → o.value = sumAt xs o.chrom p) ∧
      (∀ i (h : i + 1 < out.length), out[i].chrom = out[i+1].chrom → out[i].stop = out[i+1].start → out[i].value ≠ out[i+1].value) := C08.main xs hs hne

/-- regression witness of the repaired defect: mixed-sign values starting at one position used to
yield an empty record `[0,0)` -/
example : mergeSortedBedgraph [⟨[], 0, 10, 1⟩, ⟨[], 0, 10, -1⟩] = .ok [⟨[], 0, 10, 0⟩] := by decide +kernel
example : mergeSortedBedgraph [⟨[], 0, 10, -2⟩, ⟨[], 0, 12, 3⟩] = .ok [⟨[], 0, 10, 1⟩, ⟨[], 10, 12, 3⟩] := by decide +kernel

end BV
