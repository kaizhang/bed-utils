import BedVerif.Lemmas.Coverage05
/-!
# C05 — region coverage counters hold the exact overlap-weighted tag sums

The counters run on top of the `GIntervalIndexSet` model (tag lookup through the per-chromosome
Lapper `find`, C11/C02). Multiplicities and counts are integers; `total_count` (an `f64` in the
Rust) is exact while all partial sums stay below 2^53. `insert_at_index` indices are in range
(`InRange`), as the Rust would panic otherwise.
-/
namespace BV

/-- after any history, the dense counter holds for each region, in supply order, the sum of the
multiplicities of the tags inserted since the last reset that overlap it on the same chromosome
(duplicated regions each receive the full count), plus what `insert_at_index` added to exactly that
index; `total_count` is the sum of all multiplicities since the last reset -/
theorem C05_dense (regions : List Rec) (ops : List COp) (h : InRange regions.length ops) :
    (Dense.run regions ops).counts = specCounts regions ops ∧
    (Dense.run regions ops).total = specTotal ops := by
  rw [dense_run_eq]
  exact ⟨rfl, rfl⟩

theorem C05_len (regions : List Rec) (ops : List COp) :
    (Dense.run regions ops).counts.length = regions.length := by
  rw [dense_run_eq, specState, List.length_map, List.length_range]

/-- the dense and the sparse counter always agree -/
theorem C05_sparse_eq_dense (regions : List Rec) (ops : List COp) (h : InRange regions.length ops) :
    asVec regions.length (Sparse.run regions ops).m = (Dense.run regions ops).counts ∧
    (Sparse.run regions ops).total = (Dense.run regions ops).total :=
  let ⟨_, hv⟩ := sparse_run regions ops
  ⟨congrArg Dense.counts hv, congrArg Dense.total hv⟩

/-- the sparse map keeps the `BTreeMap` shape: keys strictly increasing and in range -/
theorem C05_sparse_keys (regions : List Rec) (ops : List COp) (h : InRange regions.length ops) :
    ((Sparse.run regions ops).m.map (·.1)).Pairwise (· < ·) ∧ ∀ kv ∈ (Sparse.run regions ops).m, kv.1 < regions.length :=
  ⟨(sparse_run regions ops).1, sparse_keys_lt regions ops h⟩

/-- a tag that merely touches a region boundary, or lies on another chromosome, adds nothing to it -/
theorem C05_touching_adds_nothing (regions : List Rec) (i : Nat) (tag : Rec) (k : Int)
    (h : (regions.getD i default).chrom ≠ tag.chrom ∨ (regions.getD i default).stop ≤ tag.start ∨ tag.stop ≤ (regions.getD i default).start) :
    contrib regions i (.insert tag k) = 0 := by
  refine if_neg fun hov => ?_
  simp only [Rec.ov, Bool.and_eq_true, beq_iff_eq, decide_eq_true_eq] at hov
  exact h.elim (· hov.1.1) (by omega)

/-- witness (fixture `test_coverage` of the crate: duplicated region, touching tag, spanning tag) -/
example : (Dense.run [⟨[1], 200, 500⟩, ⟨[1], 1000, 2000⟩, ⟨[1], 10000, 11000⟩, ⟨[2], 10, 20⟩, ⟨[1], 200, 500⟩]
    [.insert ⟨[1], 100, 210⟩ 1, .insert ⟨[1], 100, 500⟩ 1, .insert ⟨[1], 100, 5000⟩ 1, .insert ⟨[1], 100, 200⟩ 1, .insert ⟨[1], 1000, 1001⟩ 1]).counts
    = [3, 2, 0, 0, 3] := by decide +kernel

/-- the linear-time evaluation of the C05 spec the driver uses on large region lists (`specCountsFast`, regions paired
with their positions instead of list indexing) is the spec -/
theorem C05_specCountsFast_eq (regions : List Rec) (ops : List COp) :
    specCountsFast regions ops = specCounts regions ops := by
  have hz : regions.zipIdx = (List.range regions.length).map (fun i => (regions.getD i default, i)) := by
    rw [← enumFrom_eq_zipIdx, enumFrom_eq_range]; rfl
  rw [specCountsFast, specCounts, hz, List.map_map]
  refine List.map_congr_left fun i _ => congrArg List.sum (List.map_congr_left fun o _ => ?_)
  cases o <;> rfl

end BV
