import BedVerif.Lemmas.RecBasic
import BedVerif.Lemmas.ListReflect
/-!
# C14 — splitting a record tiles it exactly

For `start ≤ end ≤ u64::MAX` and `1 ≤ bin ≤ u64::MAX`, with the `u64` additions modelled exactly
(`saturating_add` in `split_by_len`; `rsplit_by_len` performs no addition that can overflow).
The predicates `Tiles` / `RTiles` are defined in `Lemmas/RecBasic.lean`.
-/
namespace BV

theorem C14_split_tiles (r : Rec) (bin : Nat) (hr : r.start ≤ r.stop) (hmax : r.stop ≤ U64MAX) (hb : 1 ≤ bin) (hbm : bin ≤ U64MAX) :
    ∃ ps, splitByLen r bin = .ok ps ∧ Tiles r bin ps :=
  have _ := hr; have _ := hbm   -- not needed: a record with `end < start` has no pieces
  ⟨_, splitByLen_eq r bin hb hmax, (splitByLen_ok_iff_tiles r bin _ hb hmax).mp (splitByLen_eq r bin hb hmax)⟩

theorem C14_rsplit_tiles (r : Rec) (bin : Nat) (hr : r.start ≤ r.stop) (hmax : r.stop ≤ U64MAX) (hb : 1 ≤ bin) (hbm : bin ≤ U64MAX) :
    ∃ ps, rsplitByLen r bin = .ok ps ∧ RTiles r bin ps :=
  have _ := hr; have _ := hmax; have _ := hbm   -- not needed
  ⟨_, rsplitByLen_eq r bin hb, rtiles_pieces r bin hb⟩

/-- a tiling partitions `[start, end)`: every position of the record lies in exactly one piece, and
no piece contains a position outside the record -/
theorem C14_partition (r : Rec) (bin : Nat) (ps : List Rec) (hb : 1 ≤ bin) (h : Tiles r bin ps) (p : Nat) :
    r.mem p ↔ ∃ i, ∃ _ : i < ps.length, ps[i].mem p ∧ ∀ j (_ : j < ps.length), ps[j].mem p → j = i := by
  constructor
  · intro hp
    -- the piece is number `(p - start) / bin`, by `Tiles.mem_iff`
    have hi : (p - r.start) / bin < ps.length := by
      rw [h.count, lt_ceilDiv_iff hb]
      have := Nat.div_mul_le_self (p - r.start) bin
      have := hp.1; have := hp.2
      unfold Rec.blen; omega
    exact ⟨_, hi, (h.mem_iff hb _ hi p).mpr ⟨hp, rfl⟩, fun j hj hm => ((h.mem_iff hb j hj p).mp hm).2.symm⟩
  · rintro ⟨i, hi, hm, _⟩
    exact ((h.mem_iff hb i hi p).mp hm).1

theorem C14_split_empty (r : Rec) (bin : Nat) (hb : 1 ≤ bin) (h : r.start = r.stop) :
    splitByLen r bin = .ok [] ∧ rsplitByLen r bin = .ok [] := by
  have hz : (r.stop - r.start + bin - 1) / bin = 0 := by
    rw [h, Nat.sub_self, Nat.zero_add]
    exact Nat.div_eq_of_lt (by omega)
  have : bin ≠ 0 := by omega
  simp [splitByLen, rsplitByLen, stepPoints, rstepPoints, this, hz]

/-- the Boolean checker used by the driver is sound for the specification -/
theorem C14_tilesB_sound (r : Rec) (bin : Nat) (ps : List Rec) (h : tilesB r bin ps = true) : Tiles r bin ps := by
  simp only [tilesB, Bool.and_eq_true, beq_iff_eq, List.all_eq_true, forall_mem_zip_drop_one, isEmpty_or_iff,
    decide_eq_true_eq] at h
  obtain ⟨⟨⟨⟨hcount, hchrom⟩, hfl⟩, hz⟩, hll⟩ := h
  refine ⟨hchrom, hcount, fun hp => ?_, fun hp => ?_, fun i hi => (hz i hi).1, fun i hi => (hz i hi).2, fun hp => ?_⟩
  · exact headD_eq_getElem _ _ hp ▸ (hfl hp).1
  · exact getLastD_eq_getElem _ _ hp ▸ (hfl hp).2
  · exact getLastD_eq_getElem _ _ hp ▸ hll hp

/-- witnesses (regressions of the repaired overflow): a bin of `u64::MAX`, a record ending at `u64::MAX` -/
example : splitByLen ⟨[], 10, 20⟩ U64MAX = .ok [⟨[], 10, 20⟩] := by decide +kernel
example : splitByLen ⟨[], U64MAX - 5, U64MAX⟩ 3 = .ok [⟨[], U64MAX - 5, U64MAX - 2⟩, ⟨[], U64MAX - 2, U64MAX⟩] := by decide +kernel
example : rsplitByLen ⟨[], 0, 1230⟩ 500 = .ok [⟨[], 730, 1230⟩, ⟨[], 230, 730⟩, ⟨[], 0, 230⟩] := by decide +kernel

end BV
