import BedVerif.Props.C10
import BedVerif.Lemmas.Sort
/-!
# C01 — external sort yields the sorted permutation of its input

`sortBy` = run formation of `sort_by` + in-memory sort of each run + chunk store + the k-way merge of
C10. The in-memory sort (`par_sort_unstable_by` on the worker pool) and the chunk storage are
parameters with contracts: `SortSpec` (ANY function returning a sorted permutation — this is how
all schedules are quantified over) and a store that returns what was written (faults: C09).
-/
namespace BV
variable {ε α : Type}

/-- contract of the in-memory sort of one run (`par_sort_unstable_by` under any schedule of the
worker pool): some sorted permutation of its input -/
structure SortSpec (cmp : α → α → Ordering) (srt : List α → List α) : Prop where
  perm : ∀ l, (srt l).Perm l
  sorted : ∀ l, (srt l).Pairwise (le cmp)


theorem C01_runsAux_out (c : Nat) (xs buf : List α) (out : List (List α)) :
    runsAux c xs buf out = out.reverse ++ runsAux c xs buf [] := by
  induction xs generalizing buf out with
  | nil => simp only [runsAux]; split <;> simp
  | cons x xs ih =>
    simp only [runsAux]
    split
    · rw [ih [] (_ :: out), ih [] [_]]; simp
    · exact ih _ _

/-- the four properties of a list of runs, for run size `m` and target concatenation `tgt` -/
def C01Good (m : Nat) (tgt : List α) (L : List (List α)) : Prop :=
  L.flatten = tgt ∧ (∀ r ∈ L, r ≠ []) ∧
  (∀ i (h : i + 1 < L.length), (L[i]'(Nat.lt_of_succ_lt h)).length = m) ∧ (∀ r ∈ L, r.length ≤ m)

theorem C01Good_nil (m : Nat) : C01Good m ([] : List α) [] := ⟨rfl, nofun, nofun, nofun⟩

theorem C01Good_cons (m : Nat) (r tgt : List α) (L : List (List α)) (h0 : r ≠ []) (hm : r.length ≤ m)
    (hfull : L ≠ [] → r.length = m) (hL : C01Good m tgt L) : C01Good m (r ++ tgt) (r :: L) := by
  obtain ⟨h1, h2, h3, h4⟩ := hL
  refine ⟨by rw [List.flatten_cons, h1], List.forall_mem_cons.mpr ⟨h0, h2⟩, fun i h => ?_,
    List.forall_mem_cons.mpr ⟨hm, h4⟩⟩
  cases i with
  | zero => exact hfull (List.ne_nil_of_length_pos (Nat.lt_of_succ_lt_succ h))
  | succ j => exact h3 j (Nat.lt_of_succ_lt_succ h)

/-- `m` stands for `max c 1`, of which only these three facts are used -/
theorem C01_runsAux_spec {c m : Nat} (hc : c ≤ m) (h1 : 1 ≤ m) (hm : m ≤ c ∨ m = 1) (xs buf : List α)
    (hb : buf.length < m) : C01Good m (buf.reverse ++ xs) (runsAux c xs buf []) := by
  induction xs generalizing buf with
  | nil =>
    rw [runsAux]
    split
    · next hpos =>
      refine C01Good_cons _ buf.reverse [] [] (fun h => ?_) (by rw [List.length_reverse]; omega) nofun (C01Good_nil _)
      rw [List.reverse_eq_nil_iff.mp h] at hpos
      cases hpos
    · next hpos =>
      rw [List.eq_nil_of_length_eq_zero (Nat.eq_zero_of_not_pos hpos)]
      exact C01Good_nil _
  | cons x xs ih =>
    rw [runsAux]
    split
    · next hge =>
      have hlen : (x :: buf).reverse.length = m := by
        rw [List.length_reverse]; rw [List.length_cons] at hge ⊢; omega
      rw [C01_runsAux_out, show buf.reverse ++ x :: xs = (x :: buf).reverse ++ xs by
        rw [List.reverse_cons, List.append_assoc, List.singleton_append], List.reverse_singleton, List.singleton_append]
      exact C01Good_cons _ _ _ _ (List.ne_nil_of_length_pos (by omega)) (by omega) (fun _ => hlen) (ih [] h1)
    · next hlt =>
      have := ih (x :: buf) (by rw [List.length_cons] at hlt ⊢; omega)
      rwa [List.reverse_cons, List.append_assoc] at this

theorem C01_okItems_map_ok (l : List α) : okItems (l.map (Item.ok (ε := ε))) = l := by
  induction l with
  | nil => rfl
  | cons a t ih => rw [List.map_cons, C10.okItems_cons_ok, ih]

theorem C01_allOk_map_ok (l : List α) : AllOk (l.map (Item.ok (ε := ε))) := by
  intro x hx
  obtain ⟨a, _, rfl⟩ := List.mem_map.mp hx
  exact ⟨a, rfl⟩

theorem C01_okItems_flatten (L : List (List (Item ε α))) :
    okItems L.flatten = (L.map okItems).flatten :=
  List.filterMap_flatten ..

theorem C01_perm_flatten_map (f : List α → List α) (hf : ∀ l, (f l).Perm l) (L : List (List α)) :
    ((L.map f).flatten).Perm L.flatten := by
  induction L with
  | nil => exact .refl _
  | cons a t ih => exact (hf a).append ih

theorem C01_totalLe (cmp : α → α → Ordering) (h : TotalPreorder cmp) :
    TotalLe (fun a b => cmp a b != .gt) := by
  refine ⟨fun a b => ?_, fun a b c hab hbc => bne_iff_ne.mpr (h.trans a b c (bne_iff_ne.mp hab) (bne_iff_ne.mp hbc))⟩
  simp only [bne_iff_ne]
  by_cases hab : cmp a b = .gt
  · right
    rw [h.swap, hab]
    nofun
  · exact .inl hab

/-- run formation: the runs concatenate to the input in order, none is empty, all but the last have
exactly `max c 1` items and the last at most that many — for every chunk size, including 0 and 1 and
sizes larger than the input -/
theorem C01_runs (c : Nat) (xs : List α) :
    (runs c xs).flatten = xs ∧ (∀ r ∈ runs c xs, r ≠ []) ∧
    (∀ i (h : i + 1 < (runs c xs).length), ((runs c xs)[i]).length = max c 1) ∧
    (∀ r ∈ runs c xs, r.length ≤ max c 1) := by
  exact C01_runsAux_spec (Nat.le_max_left c 1) (Nat.le_max_right c 1)
    ((Nat.le_total c 1).elim (fun h => .inr (Nat.max_eq_right h)) fun h => .inl (Nat.le_of_eq (Nat.max_eq_left h)))
    xs [] (Nat.le_max_right c 1)

/-- C01: for every comparator that is a total preorder, every in-memory sort meeting its contract
(this is how all worker-pool schedules are quantified over), a healthy chunk storage (write and
read back is the identity), every chunk size and every input: the returned stream has the initial
`len()` of the input, yields only `Ok` items, every input record exactly once, in non-decreasing
comparator order. Thread count, compression and tmp dir do not occur in the model. -/
theorem C01_sortBy (cmp : α → α → Ordering) (h : TotalPreorder cmp)
    (srt : (α → α → Ordering) → List α → List α) (hsrt : SortSpec cmp (srt cmp))
    (store : List α → List (Item ε α)) (hstore : ∀ l, store l = l.map .ok) (c : Nat) (xs : List α) :
    (sortBy srt cmp store c xs).1 = xs.length ∧
    AllOk (sortBy srt cmp store c xs).2 ∧
    (okItems (sortBy srt cmp store c xs).2).Perm xs ∧
    (okItems (sortBy srt cmp store c xs).2).Pairwise (le cmp) := by
  obtain rfl : store = fun l => l.map .ok := funext hstore
  dsimp only [sortBy]
  obtain ⟨hm1, hm2, hm3⟩ := C10_merge_ok (ε := ε) cmp h ((runs c xs).map fun r => (srt cmp r).map .ok)
    (List.forall_mem_map.mpr fun r _ => C01_allOk_map_ok _)
    (List.forall_mem_map.mpr fun r _ => by rw [C01_okItems_map_ok]; exact hsrt.sorted r)
  refine ⟨rfl, hm1, hm2.trans ?_, hm3⟩
  -- the ok items of the chunks are the sorted runs, and the runs concatenate to the input
  rw [C01_okItems_flatten, List.map_map, show (okItems ∘ fun r => (srt cmp r).map (Item.ok (ε := ε))) = srt cmp from
    funext fun r => C01_okItems_map_ok _]
  have := C01_perm_flatten_map (srt cmp) hsrt.perm (runs c xs)
  rwa [(C01_runs c xs).1] at this

/-- the stable insertion sort used by the driver's executable model meets the contract, so the
theorem applies to it -/
theorem C01_isort_sortspec (cmp : α → α → Ordering) (h : TotalPreorder cmp) :
    SortSpec cmp (fun l => isort (fun a b => cmp a b != .gt) l) := by
  refine ⟨fun l => isort_perm _ l, fun l => (isort_sorted (C01_totalLe cmp h) l).imp bne_iff_ne.mp⟩

/-- schedule independence: two runs with different in-memory sorts (different schedules) return the
same multiset, both sorted — they can differ only in the order of ties -/
theorem C01_schedule_independent (cmp : α → α → Ordering) (h : TotalPreorder cmp)
    (srt₁ srt₂ : (α → α → Ordering) → List α → List α) (h₁ : SortSpec cmp (srt₁ cmp)) (h₂ : SortSpec cmp (srt₂ cmp))
    (c₁ c₂ : Nat) (xs : List α) :
    (okItems (sortBy (ε := ε) srt₁ cmp (fun l => l.map .ok) c₁ xs).2).Perm (okItems (sortBy (ε := ε) srt₂ cmp (fun l => l.map .ok) c₂ xs).2) := by
  have a := (C01_sortBy (ε := ε) cmp h srt₁ h₁ (fun l => l.map .ok) (fun _ => rfl) c₁ xs).2.2.1
  have b := (C01_sortBy (ε := ε) cmp h srt₂ h₂ (fun l => l.map .ok) (fun _ => rfl) c₂ xs).2.2.1
  exact a.trans b.symm

/-- witness: chunk size 3, ties, seven records -/
example : (sortBy (ε := Unit) (fun cm l => isort (fun a b => cm a b != .gt) l) (compare : Nat → Nat → Ordering) (fun l => l.map .ok) 3 [5, 3, 9, 1, 1, 8, 2]).2
    = [.ok 1, .ok 1, .ok 2, .ok 3, .ok 5, .ok 8, .ok 9] := by decide +kernel
example : runs 0 [1, 2, 3] = [[1], [2], [3]] ∧ runs 2 [1, 2, 3, 4, 5] = [[1, 2], [3, 4], [5]] ∧ runs 7 [1, 2, 3] = [[1, 2, 3]] ∧ runs 3 ([] : List Nat) = [] := by decide

end BV
