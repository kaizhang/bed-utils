import BedVerif.Spec.Text
import BedVerif.Lemmas.C12Lemmas
import BedVerif.Lemmas.C12Met
/-!
# C12 — record parsers are total and name the offending column

The parsers are modelled column by column as in `src/bed.rs` (after the repair that turned the
`unwrap`s of the format-specific columns into `ParseError::MissingValue` / `InvalidValue`);
`c12Expect` (Spec/Text.lean) is the column-wise statement of the property and is also what the
driver evaluates on the implementation's result. Float columns go through an arbitrary `FloatCodec`.
-/
namespace BV
variable {F : Type}

/-- parsing any string as any record type returns Ok or Err; it never panics -/
theorem C12_no_panic (fc : FloatCodec F) (ty : Ty) (s : Bytes) : parseT fc ty s ≠ .panic := by
  rw [parseT_eq_parseList]
  exact (met_colsOf fc ty s _).ne_panic

/-- the column-wise expectation is met: a line whose required columns are all well-formed parses
successfully whatever extra columns follow; a line whose first missing or malformed BED column is
column k is rejected with the error for column k (missing versus invalid start, end, name, score,
strand); a line whose BED columns are fine but whose format-specific columns are not is rejected -/
theorem C12_expect_met (fc : FloatCodec F) (ty : Ty) (line : Bytes) :
    match c12Expect fc ty line with
    | .accept => ∃ r, parseT fc ty line = .ok r
    | .bedError e => parseT fc ty line = .err e
    | .someError => ∃ e, parseT fc ty line = .err e := by
  simp only [parseT_eq_parseList]
  exact met_colsOf fc ty line _

/-- extra trailing columns never change the result of an accepted line -/
theorem C12_extra_columns (fc : FloatCodec F) (ty : Ty) (s extra : Bytes) (r : TRec F)
    (h : parseT fc ty s = .ok r) : parseT fc ty (s ++ TAB :: extra) = .ok r := by
  rw [parseT_eq_parseList] at h ⊢
  have hs : columnsOfLine ty (s ++ TAB :: extra) = columnsOfLine ty s ++ columnsOfLine ty extra := by
    cases ty <;> exact C03.splitOn_append _ TAB (by decide) s extra
  rw [hs]
  exact parseList_append _ _ _ _ _ h

/-- `str::split` always yields at least one piece, so the chromosome column is never missing -/
theorem C12_split_nonempty (d : UInt8 → Bool) (s : Bytes) : splitOn d s ≠ [] := C03.splitOn_ne_nil d s

/-- witnesses: first bad column decides; extra columns are ignored -/
example : parseT (F := Nat) ⟨fun _ => none, fun _ => [], fun _ => false, 0, fun _ => false⟩ (.bed 6) [99, 9, 49, 9, 120] = .err .invalidEnd := by decide
example : parseT (F := Nat) ⟨fun _ => none, fun _ => [], fun _ => false, 0, fun _ => false⟩ (.bed 3) [99, 9, 49, 9, 50, 9, 120, 9, 9] = .ok { chrom := [99], start := 1, stop := 2 } := by decide

end BV
