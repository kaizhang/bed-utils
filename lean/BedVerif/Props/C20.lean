import BedVerif.Props.C18
import BedVerif.Lemmas.C20Drain
import BedVerif.Lemmas.C20Checker
namespace BV
variable {α : Type}

/-- all coordinates fit in u64 -/
def FitsU64 (l : List (Iv α)) (ops : List (Op α)) : Prop := ∀ iv ∈ recordsOf l ops, iv.stop ≤ U64MAX

/-- merges only take the maximum of stops: when the supplied intervals fit in u64, so do the stored ones -/
theorem C20_stored_fits (l : List (Iv α)) (ops : List (Op α)) (h : NonEmptyIvs l ops) (hfit : FitsU64 l ops) :
    ∀ iv ∈ (Lapper.run l ops).intervals.toList, iv.stop ≤ U64MAX := by
  intro iv hiv
  have hne := C18_stored_nonempty l ops h iv hiv
  have hc : covered (Lapper.run l ops).intervals.toList (iv.stop - 1) :=
    ⟨iv, hiv, (Iv.covers_iff iv _).mpr ⟨by omega, by omega⟩⟩
  obtain ⟨r, hr, hrc⟩ := (C18_covered_supplied l ops h (iv.stop - 1)).mp hc
  have := hfit r hr
  rw [Iv.covers_iff] at hrc
  omega

/-- C20 for every reachable state over non-empty intervals anywhere in the u64 range (an interval may end at u64::MAX itself) -/
theorem C20_depth_spec (l : List (Iv α)) (ops : List (Op α)) (h : NonEmptyIvs l ops) (hfit : FitsU64 l ops) :
    IsDepthRLE (Lapper.run l ops).intervals.toList (Lapper.run l ops).depth := by
  have hinv := inv_run l ops
  exact depth_spec_of _ ⟨hinv.sortedStart, hinv.maxLen_ge, C20_stored_fits l ops h hfit⟩ (C18_stored_nonempty l ops h)

/-- an empty set yields no runs -/
theorem C20_depth_empty : (Lapper.new ([] : List (Iv α))).depth = [] := by rfl

/-- the Boolean checker the driver applies to the implementation's output is sound for the spec -/
theorem C20_isDepthRLEB_sound (l : List (Iv α)) (runs : List (Iv Nat)) (h : isDepthRLEB l runs = true) :
    IsDepthRLE l runs := by
  unfold isDepthRLEB at h
  simp only [Bool.and_eq_true, List.all_eq_true, decide_eq_true_eq, Bool.or_eq_true, bne_iff_ne,
    forall_mem_zip_drop_one] at h
  obtain ⟨⟨hne, hadj⟩, hbp⟩ := h
  have hok := okB_everywhere l runs hbp
  have hval : ∀ r ∈ runs, ∀ p, r.covers p = true → depthOf l p = r.val ∧ 0 < r.val := by
    intro r hr p hc
    have hmem : r ∈ runs.filter (·.covers p) := List.mem_filter.mpr ⟨hr, hc⟩
    rcases okB_cases l runs p (hok p) with ⟨hf, _⟩ | ⟨r', hf, hd⟩
    · rw [hf] at hmem; cases hmem
    · rw [hf, List.mem_singleton] at hmem; rw [hmem]; exact hd
  -- `stop ≤ start` of the next run is transitive only together with the next run's non-emptiness
  have hasc := pairwise_of_adjacent (R := fun a b : Iv Nat => a.stop ≤ b.start ∧ b.start < b.stop)
    (fun a b c h1 h2 => ⟨by omega, h2.2⟩) (fun i hi => ⟨(hadj i hi).1, hne _ (List.getElem_mem _)⟩)
  refine ⟨hne, hasc.imp And.left, hval, fun p => ?_, ?_⟩
  · rw [← depthOf_pos]
    constructor
    · intro hp
      rcases okB_cases l runs p (hok p) with ⟨_, hd⟩ | ⟨r, hf, _⟩
      · omega
      · have := List.mem_filter.mp (hf ▸ List.mem_singleton_self r)
        exact ⟨r, this.1, this.2⟩
    · rintro ⟨r, hr, hc⟩
      have := hval r hr p hc; omega
  · intro i hi heq hv
    rcases (hadj i hi).2 with h | h
    · exact h heq
    · exact h hv

/-- witness (fixture `test_depth_harder` of the crate) -/
example : (Lapper.new [(⟨1, 10, ()⟩ : Iv Unit), ⟨2, 5, ()⟩, ⟨3, 8, ()⟩, ⟨3, 8, ()⟩, ⟨3, 8, ()⟩, ⟨5, 8, ()⟩, ⟨9, 11, ()⟩, ⟨15, 20, ()⟩]).depth
    = [⟨1, 2, 1⟩, ⟨2, 3, 2⟩, ⟨3, 8, 5⟩, ⟨8, 9, 1⟩, ⟨9, 10, 2⟩, ⟨10, 11, 1⟩, ⟨15, 20, 1⟩] := by decide +kernel

/-- witness: two intervals ending at u64::MAX itself (the last probe of the block is at `u64::MAX`) -/
example : (Lapper.new [(⟨18446744073709551612, 18446744073709551615, ()⟩ : Iv Unit), ⟨18446744073709551613, 18446744073709551615, ()⟩]).depth
    = [⟨18446744073709551612, 18446744073709551613, 1⟩, ⟨18446744073709551613, 18446744073709551615, 2⟩] := by decide +kernel

end BV
