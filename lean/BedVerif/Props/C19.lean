import BedVerif.Lemmas.C19Union
namespace BV
variable {α : Type}

/-- the moving-interval sweep of `calculate_coverage` counts the covered positions -/
theorem C19_calcCov_spec (s : Lapper α) (hs : SortedStart s.intervals.toList) (hne : ∀ iv ∈ s.intervals.toList, iv.start < iv.stop) :
    s.calcCov = coveredCount s.intervals.toList := calcCov_spec s hs hne

/-- the cached value, when present, is the coverage of the *current* content: `cov()` is up to date
after any interleaving of `set_cov`, `insert` and `merge_overlaps` -/
theorem C19_cov_spec (l : List (Iv α)) (ops : List (Op α)) (h : NonEmptyIvs l ops) :
    (Lapper.run l ops).getCov = coveredCount (Lapper.run l ops).intervals.toList :=
  have g := Lapper.Hist.run l ops h
  g.getCov.trans (coveredCount_congr g.cov).symm

/-- … and it is the number of positions covered by the supplied intervals -/
theorem C19_cov_supplied (l : List (Iv α)) (ops : List (Op α)) (h : NonEmptyIvs l ops) :
    (Lapper.run l ops).getCov = coveredCount (recordsOf l ops) := (Lapper.Hist.run l ops h).getCov

/-- union and intersect are the sizes of the union and of the intersection of the covered position
sets, on both code paths (both sets merged: pairwise sums; otherwise: materialise, merge, count) -/
theorem C19_union_intersect {β : Type} (la : List (Iv α)) (oa : List (Op α)) (lb : List (Iv β)) (ob : List (Op β))
    (ha : NonEmptyIvs la oa) (hb : NonEmptyIvs lb ob) :
    (Lapper.run la oa).unionAndIntersect (Lapper.run lb ob) =
      (unionCount (recordsOf la oa) (recordsOf lb ob), interCount (recordsOf la oa) (recordsOf lb ob)) :=
  (Lapper.Hist.run la oa ha).unionAndIntersect (Lapper.Hist.run lb ob hb)

/-- machine arithmetic of the repaired `union_and_intersect`: the intersection never exceeds cov(a), so
`cov(a) - inter` cannot underflow; `cov(a) - inter + cov(b)` IS the size of the union; and the union is at
most the greatest stop, i.e. it fits in u64 whenever the coordinates do — no intermediate value of the
repaired expression exceeds u64::MAX -/
theorem C19_union_u64_exact {β : Type} (A : List (Iv α)) (B : List (Iv β)) :
    interCount A B ≤ coveredCount A ∧
    coveredCount A - interCount A B + coveredCount B = unionCount A B ∧
    unionCount A B ≤ max (maxStop A) (maxStop B) :=
  ⟨interCount_le_coveredCount A B, unionCount_eq_sub_add A B, unionCount_le_maxStop A B⟩

/-- witness: `[0,3)` and `[2,5)` cover 5 positions together and share 1 -/
example : ((Lapper.new [(⟨0, 3, ()⟩ : Iv Unit)]).unionAndIntersect (Lapper.new [(⟨2, 5, ()⟩ : Iv Unit)])) = (5, 1) := by decide +kernel

/-- symmetric in the two arguments -/
theorem C19_symm {β : Type} (la : List (Iv α)) (oa : List (Op α)) (lb : List (Iv β)) (ob : List (Op β))
    (ha : NonEmptyIvs la oa) (hb : NonEmptyIvs lb ob) :
    (Lapper.run la oa).unionAndIntersect (Lapper.run lb ob) = (Lapper.run lb ob).unionAndIntersect (Lapper.run la oa) := by
  rw [C19_union_intersect la oa lb ob ha hb, C19_union_intersect lb ob la oa hb ha,
    unionCount_comm, interCount_comm]

/-- independent of whether either set has had its overlaps merged -/
theorem C19_merged_irrelevant {β : Type} (la : List (Iv α)) (oa : List (Op α)) (lb : List (Iv β)) (ob : List (Op β))
    (ha : NonEmptyIvs la oa) (hb : NonEmptyIvs lb ob) :
    (Lapper.run la (oa ++ [.merge])).unionAndIntersect (Lapper.run lb ob) = (Lapper.run la oa).unionAndIntersect (Lapper.run lb ob) ∧
    (Lapper.run la oa).unionAndIntersect (Lapper.run lb (ob ++ [.merge])) = (Lapper.run la oa).unionAndIntersect (Lapper.run lb ob) := by
  have ha' : NonEmptyIvs la (oa ++ [.merge]) := by
    unfold NonEmptyIvs; rw [recordsOf_append_merge]; exact ha
  have hb' : NonEmptyIvs lb (ob ++ [.merge]) := by
    unfold NonEmptyIvs; rw [recordsOf_append_merge]; exact hb
  constructor
  · rw [C19_union_intersect la _ lb ob ha' hb, C19_union_intersect la oa lb ob ha hb, recordsOf_append_merge]
  · rw [C19_union_intersect la oa lb _ ha hb', C19_union_intersect la oa lb ob ha hb, recordsOf_append_merge]

end BV
